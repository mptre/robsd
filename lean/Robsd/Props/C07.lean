import Robsd.Model.Runner
/-
  C07 (partial): termination and timeout take down the whole step process group.

  Proved here, for every environment (any arrival time of SIGTERM / SIGALRM
  after the handlers are installed, any behaviour of the step's main process):
  what the runner does.  Not provable in a model and checked on the real
  kernel instead: that `kill(-pgid, sig)` reaches every member of the group.
-/
namespace Robsd
namespace C07
open Runner

theorem firstReap_spec (f : Nat → Option WStatus) (n j : Nat) :
    match firstReap f n j with
    | some st => ∃ k, j ≤ k ∧ k < j + n ∧ f k = some st ∧ ∀ m, j ≤ m → m < k → f m = none
    | none => ∀ k, j ≤ k → k < j + n → f k = none := by
  fun_induction firstReap f n j with
  | case1 => exact fun k h1 h2 => absurd h2 (Nat.not_lt.mpr h1)  -- no poll left
  | case2 n j st hf =>  -- poll `j` reaps
    exact ⟨j, Nat.le_refl _, Nat.lt_add_of_pos_right (Nat.succ_pos n), hf, fun m h1 h2 => absurd h2 (Nat.not_lt.mpr h1)⟩
  | case3 n j hf ih =>
    rw [Nat.succ_add_eq_add_succ] at ih
    split at ih
    · obtain ⟨k, h1, h2, h3, h4⟩ := ih
      exact ⟨k, Nat.le_of_succ_le h1, h2, h3, fun m hm1 hm2 =>
        if e : m = j then e ▸ hf else h4 m (Nat.lt_of_le_of_ne hm1 (Ne.symm e)) hm2⟩
    · exact fun k h1 h2 => if e : k = j then e ▸ hf else ih k (Nat.lt_of_le_of_ne h1 (Ne.symm e)) h2

/-- how `exitstatus` and `step_exec` keep a failure from exiting 0 -/
theorem ite_zero_ne_zero {b d : Nat} (hd : d ≠ 0) : (if b = 0 then d else b) ≠ 0 := by
  split
  · exact hd
  · assumption

/-- the exit status after a caught signal is never 0, and 124 for the timeout -/
theorem exit_nonzero_after_signal (st : WStatus) (s : Sig) : exitOf st (some s) ≠ 0 ∧ (s = .alrm → exitOf st (some s) = Gen.exTimeout) := by
  cases s
  · -- SIGTERM: a status of 0 is replaced by 128 + 15
    simp only [exitOf, Option.some.injEq, reduceCtorEq, if_false, Option.isSome_some, Bool.true_and, beq_iff_eq]
    exact ⟨ite_zero_ne_zero (by decide), nofun⟩
  · have h : exitOf st (some .alrm) = Gen.exTimeout := if_pos rfl
    exact ⟨by rw [h]; decide, fun _ => h⟩

/-- `killwaitpg`: SIGTERM goes to the group first; SIGKILL only after 50 polls
    without the main process; it returns only once the main process is reaped
    or both bounded waits have expired -/
theorem killwait_spec (e : Env) :
    (∃ st k, k < polls ∧ e.afterTerm k = some st ∧ (∀ m, m < k → e.afterTerm m = none) ∧
        killwait e = ([.killTerm, .reap st], st)) ∨
    ((∀ m, m < polls → e.afterTerm m = none) ∧ ∃ st k, k < polls ∧ e.afterKill k = some st ∧
        (∀ m, m < k → e.afterKill m = none) ∧ killwait e = ([.killTerm, .killKill, .reap st], st)) ∨
    ((∀ m, m < polls → e.afterTerm m = none) ∧ (∀ m, m < polls → e.afterKill m = none) ∧
        killwait e = ([.killTerm, .killKill, .giveUp], .signaled 1)) := by
  have h1 := firstReap_spec e.afterTerm polls 0
  have h2 := firstReap_spec e.afterKill polls 0
  -- from poll 0 on: the lower bounds go
  simp only [Nat.zero_add, Nat.zero_le, true_and, true_implies] at h1 h2
  unfold killwait
  -- the two results as variables, for `h1`, `h2` and `killwait` to branch on them together
  generalize firstReap e.afterTerm polls 0 = r1 at h1 ⊢
  generalize firstReap e.afterKill polls 0 = r2 at h2 ⊢
  cases r1 with
  | some st =>
    obtain ⟨k, hk, hf, hn⟩ := h1
    exact Or.inl ⟨st, k, hk, hf, hn, rfl⟩
  | none =>
    cases r2 with
    | some st =>
      obtain ⟨k, hk, hf, hn⟩ := h2
      exact Or.inr (Or.inl ⟨h1, st, k, hk, hf, hn, rfl⟩)
    | none => exact Or.inr (Or.inr ⟨h1, h2, rfl⟩)

theorem killwait_head (e : Env) : (killwait e).1.head? = some .killTerm := by
  unfold killwait
  split
  · rfl
  · split <;> rfl

theorem run_quiet (e : Env) (k n : Nat)
    (hq : ∀ m, m < k → e.sig m = none ∧ e.natural m = none ∧ e.late m = none) :
    run e (k + n) = loop e n k := by
  induction k generalizing n with
  | zero => rw [Nat.zero_add]; rfl
  | succ k ih =>
    obtain ⟨h1, h2, h3⟩ := hq k (Nat.lt_succ_self k)
    rw [Nat.succ_add_eq_add_succ, ih _ (fun m hm => hq m (Nat.lt_succ_of_lt hm)), loop, h1, h2, h3]

/-- **A termination request or the timeout takes effect whenever it arrives**
    while the main process is still running: SIGTERM is sent to the process
    group, the runner waits for the main process (escalating to SIGKILL), and
    exits non-zero — 124 for the timeout. -/
theorem term_takes_effect (e : Env) (k : Nat) (s : Sig) (fuel : Nat) (hs : e.sig k = some s)
    (hq : ∀ m, m < k → e.sig m = none ∧ e.natural m = none ∧ e.late m = none) (hf : k < fuel) :
    (run e fuel).1.head? = some .killTerm ∧ (run e fuel).2 ≠ 0 ∧ (s = .alrm → (run e fuel).2 = Gen.exTimeout) ∧
    ((∃ st, (run e fuel).1.getLast? = some (.reap st)) ∨ (run e fuel).1 = [.killTerm, .killKill, .giveUp]) := by
  obtain ⟨n, rfl⟩ := Nat.exists_eq_add_of_lt hf
  rw [Nat.add_assoc, run_quiet e k (n + 1) hq, loop, hs]
  have hx := exit_nonzero_after_signal (killwait e).2 s
  refine ⟨killwait_head e, hx.1, hx.2, ?_⟩
  rcases killwait_spec e with ⟨st, _, _, _, _, hk⟩ | ⟨_, st, _, _, _, _, hk⟩ | ⟨_, _, hk⟩ <;> rw [hk]
  · exact Or.inl ⟨st, rfl⟩
  · exact Or.inl ⟨st, rfl⟩
  · exact Or.inr rfl

/-- **Without such an event the step is never cut short**: no signal is sent
    and the runner's exit status is the main process's own. -/
theorem never_cut_short (e : Env) (k : Nat) (st : WStatus) (fuel : Nat) (hnat : e.natural k = some st)
    (hq : ∀ m, m < k → e.natural m = none) (hnosig : ∀ m, m ≤ k → e.sig m = none ∧ e.late m = none) (hf : k < fuel) :
    run e fuel = ([.reap st], exitOf st none) := by
  obtain ⟨n, rfl⟩ := Nat.exists_eq_add_of_lt hf
  have hquiet : ∀ m, m < k → e.sig m = none ∧ e.natural m = none ∧ e.late m = none := fun m hm =>
    ⟨(hnosig m (Nat.le_of_lt hm)).1, hq m hm, (hnosig m (Nat.le_of_lt hm)).2⟩
  have hk := hnosig k (Nat.le_refl k)
  rw [Nat.add_assoc, run_quiet e k (n + 1) hquiet, loop, hk.1, hnat, hk.2]

/-- **A request that arrives between the runner's look at its signal flag and
    the `waitpid` of the same iteration also takes effect**: if that `waitpid`
    reaps the main process, SIGTERM is still sent to the group (the check after
    the loop) and the exit status is non-zero (124 for the timeout); if it does
    not, the next iteration starts the kill sequence. -/
theorem late_signal_takes_effect (e : Env) (k : Nat) (s : Sig) (fuel : Nat) (hl : e.late k = some s)
    (hq : ∀ m, m < k → e.sig m = none ∧ e.natural m = none ∧ e.late m = none) (hk : e.sig k = none) (hf : k < fuel) :
    ((run e fuel).1.contains .killTermLate ∨ (run e fuel).1.head? = some .killTerm) ∧ (run e fuel).2 ≠ 0 ∧
    (s = .alrm → (run e fuel).2 = Gen.exTimeout) := by
  obtain ⟨n, rfl⟩ := Nat.exists_eq_add_of_lt hf
  rw [Nat.add_assoc, run_quiet e k (n + 1) hq, loop, hk, hl]
  cases e.natural k with
  | some st => exact ⟨Or.inl (by simp), exit_nonzero_after_signal st s⟩
  | none => exact ⟨Or.inr (killwait_head e), exit_nonzero_after_signal _ s⟩

/-- **A termination request caught during the handshake** (after `fork`, while
    the runner waits for the step's process group to appear) is not lost: the
    first thing the wait loop does is signal the group, and the exit status is
    non-zero. -/
theorem handshake_signal_takes_effect (e : Env) (f : Fork) (s : Sig) (fuel : Nat)
    (hok : f.hsOk = true) (hs : f.hsSig = some s) :
    ∃ s', pending e f = some s' ∧
      stepExec e f (fuel + 1) = ((killwait (withPending e f)).1, exitOf (killwait (withPending e f)).2 (some s')) ∧
      (stepExec e f (fuel + 1)).1.head? = some .killTerm ∧ (stepExec e f (fuel + 1)).2 ≠ 0 := by
  obtain ⟨s', hs'⟩ : ∃ s', pending e f = some s' := by
    unfold pending
    cases e.sig 0 with
    | some x => exact ⟨x, rfl⟩
    | none => exact ⟨s, hs⟩
  have h0 : (withPending e f).sig 0 = some s' := by simp [withPending, hs']
  have hrun : stepExec e f (fuel + 1) = ((killwait (withPending e f)).1, exitOf (killwait (withPending e f)).2 (some s')) := by
    simp only [stepExec, hok, if_true, run, loop, h0]
  rw [hrun]
  exact ⟨s', hs', rfl, killwait_head _, (exit_nonzero_after_signal _ s').1⟩

/-- the process group never appeared: the runner reports a failure, whatever the child's status -/
theorem handshake_failure_nonzero (e : Env) (f : Fork) (fuel : Nat) (h : f.hsOk = false) :
    (stepExec e f fuel).2 ≠ 0 := by
  simp only [stepExec, h, Bool.false_eq_true, if_false]
  exact ite_zero_ne_zero (by decide)

/-- without a signal during the handshake, `step_exec` is the wait loop -/
theorem handshake_quiet (e : Env) (f : Fork) (fuel : Nat) (hok : f.hsOk = true) (hs : f.hsSig = none) :
    stepExec e f fuel = run e fuel := by
  have hp : pending e f = e.sig 0 := by unfold pending; rw [hs]; cases e.sig 0 <;> rfl
  have : withPending e f = e := by
    unfold withPending
    rw [hp, show (fun i => if i = 0 then e.sig 0 else e.sig i) = e.sig from
      funext fun i => by split <;> simp [*]]
  simp only [stepExec, hok, if_true, this]

/-- the exit status without a signal is the command's own -/
theorem exit_faithful (c n : Nat) : exitOf (.exited c) none = c ∧ exitOf (.signaled n) none = 128 + n :=
  ⟨rfl, rfl⟩

/-- SIGKILL is never sent before SIGTERM and 50 unsuccessful polls -/
theorem kill_only_after_term (e : Env) (h : .killKill ∈ (killwait e).1) :
    (killwait e).1.head? = some .killTerm ∧ ∀ m, m < polls → e.afterTerm m = none := by
  refine ⟨killwait_head e, ?_⟩
  rcases killwait_spec e with ⟨_, _, _, _, _, hk⟩ | ⟨hn, _⟩ | ⟨hn, _⟩
  · rw [hk] at h; simp at h
  · exact hn
  · exact hn

def envTermAt (k dur : Nat) (ignores : Bool) : Env :=
  { sig := fun i => if i = k then some .term else none,
    natural := fun i => if dur ≤ i then some (.exited 0) else none,
    afterTerm := fun j => if ignores then none else if 1 ≤ j then some (.signaled 15) else none,
    afterKill := fun j => if 1 ≤ j then some (.signaled 9) else none }

example : run (envTermAt 0 30 false) 100 = ([.killTerm, .reap (.signaled 15)], 143) := by decide +kernel
example : run (envTermAt 7 30 true) 100 = ([.killTerm, .killKill, .reap (.signaled 9)], 137) := by decide +kernel
example : run (envTermAt 50 30 false) 100 = ([.reap (.exited 0)], 0) := by decide +kernel
/-- the request arrives in the iteration whose waitpid reaps the main process -/
example : run { envTermAt 50 3 false with late := fun i => if i = 3 then some .term else none } 100 =
    ([.reap (.exited 0), .killTermLate], 143) := by decide +kernel

/-- non-vacuity: SIGTERM during the handshake of a step that would run 3 s; a handshake that fails -/
example : stepExec (envTermAt 50 30 false) ⟨some .term, true, .other⟩ 100 = ([.killTerm, .reap (.signaled 15)], 143) := by decide +kernel
example : stepExec (envTermAt 50 30 false) ⟨none, false, .exited 0⟩ 100 = ([.reap (.exited 0)], 1) := by decide +kernel
example : stepExec (envTermAt 50 3 false) ⟨none, true, .other⟩ 100 = ([.reap (.exited 0)], 0) := by decide +kernel

end C07
end Robsd
