import Robsd.Model.Flock
import Robsd.Lemmas.ListFacts
/-
  C02: concurrent step-file writers and readers are serialised; no update is lost.

  For ANY number of processes and ANY schedule (interleaving at the
  granularity open / lock / read / truncate / write / unlock), the invariant
  `Inv` holds in every reachable state.  It says: the processes that have
  taken the lock so far form a serial order; whenever nobody holds the lock
  the file is the result of applying their writes in that order; the holder is
  the last of the order and the file is in the corresponding phase (old
  content, empty after truncation, new content); and everything a process
  read under the lock is the serial state just before it.
-/
namespace Robsd
namespace C02
open Flock

def active (pc : Pc) : Prop := pc = .locked ∨ pc = .haveRead ∨ pc = .truncated ∨ pc = .written
def hasRead (pc : Pc) : Prop := pc = .haveRead ∨ pc = .truncated ∨ pc = .written ∨ pc = .done

theorem effect_snoc (sys : Sys) (c0 : Bytes) (before : List Nat) (p : Nat) :
    effect sys c0 (before ++ [p]) = (match sys.write p with | none => effect sys c0 before | some f => f (effect sys c0 before)) := by
  simp only [effect, List.foldl_append, List.foldl_cons, List.foldl_nil]
  cases sys.write p <;> rfl

structure Inv (sys : Sys) (c0 : Bytes) (s : State) : Prop where
  mem : ∀ p, p ∈ s.order ↔ ¬ ((s.procs p).pc = .start ∨ (s.procs p).pc = .opened)
  nodup : s.order.Nodup
  act : ∀ p, active (s.procs p).pc ↔ s.holder = some p
  free : s.holder = none → s.content = effect sys c0 s.order
  held : ∀ p, s.holder = some p → ∃ before, s.order = before ++ [p] ∧
    (((s.procs p).pc = .locked ∨ (s.procs p).pc = .haveRead) → s.content = effect sys c0 before) ∧
    ((s.procs p).pc = .truncated → s.content = [] ∧ (sys.write p).isSome) ∧
    ((s.procs p).pc = .written → s.content = effect sys c0 s.order)
  snap : ∀ p before after, s.order = before ++ p :: after → hasRead (s.procs p).pc →
    (s.procs p).snapshot = effect sys c0 before

theorem inv_init (sys : Sys) (c0 : Bytes) : Inv sys c0 (init c0) := by
  refine ⟨?_, List.nodup_nil, ?_, ?_, ?_, ?_⟩
  · intro p; simp [init]
  · intro p; simp [init, active]
  · intro _; rfl
  · intro p h; simp [init] at h
  · intro p before after h; simp [init] at h

theorem setProc_same (s : State) (p : Nat) (q : Proc) : (setProc s p q).procs p = q := by simp [setProc]
theorem setProc_other {s : State} {p j : Nat} {q : Proc} (h : j ≠ p) : (setProc s p q).procs j = s.procs j := by simp [setProc, h]

/-- a step of the lock holder `p` that leaves the order alone; `hcase`: unlock with the serial
    content left behind, or the lock kept in one of the three phases after the read.  A use passes
    `s.holder` / `s.content` for a field the step leaves alone and has `q'` found by unification:
    `step`'s result and the state below then agree by unfolding `setProc`. -/
theorem inv_holder_step {sys : Sys} {c0 : Bytes} {s : State} (hinv : Inv sys c0 s) {p : Nat}
    (hhold : s.holder = some p) {before : List Nat} (h1 : s.order = before ++ [p])
    {q' : Proc} (holder' : Option Nat) (c' : Bytes)
    (hsnap : q'.snapshot = effect sys c0 before)
    (hcase : (holder' = none ∧ q'.pc = .done ∧ c' = effect sys c0 s.order) ∨
      (holder' = some p ∧ q'.pc = .haveRead ∧ c' = effect sys c0 before) ∨
      (holder' = some p ∧ q'.pc = .truncated ∧ c' = [] ∧ (sys.write p).isSome) ∨
      (holder' = some p ∧ q'.pc = .written ∧ c' = effect sys c0 s.order)) :
    Inv sys c0 { setProc s p q' with holder := holder', content := c' } := by
  -- what the four outcomes share
  obtain ⟨hin, hact, hholder⟩ : ¬ (q'.pc = .start ∨ q'.pc = .opened) ∧ (active q'.pc ↔ holder' = some p) ∧
      (holder' = none ∨ holder' = some p) := by
    rcases hcase with ⟨hn, h, _⟩ | ⟨hn, h, _⟩ | ⟨hn, h, _⟩ | ⟨hn, h, _⟩ <;> simp [active, h, hn]
  have hother : ∀ j, j ≠ p → holder' ≠ some j ∧ s.holder ≠ some j := fun j hj =>
    ⟨by rcases hholder with h | h <;> simp [h, Ne.symm hj], by simp [hhold, Ne.symm hj]⟩
  refine { hinv with
    mem := fun j => ?mem, act := fun j => ?act, free := fun h => ?free
    held := fun j hj => ?held, snap := fun j b2 after h hr => ?snap }
  case mem =>
    by_cases hj : j = p
    · subst hj; simp [setProc, hin, h1]
    · rw [setProc_other hj]; exact hinv.mem j
  case act =>
    by_cases hj : j = p
    · subst hj; simpa [setProc] using hact
    · simp only [setProc, hj, if_false, (hother j hj).1, iff_false]
      exact fun h => (hother j hj).2 ((hinv.act j).mp h)
  case free =>
    rcases hcase with ⟨_, _, hc⟩ | ⟨hn, _⟩ | ⟨hn, _⟩ | ⟨hn, _⟩
    · exact hc
    all_goals rw [hn] at h; cases h
  case held =>
    have : j = p := Decidable.byContradiction fun hne => (hother j hne).1 hj
    subst this
    refine ⟨before, h1, ?_⟩
    rcases hcase with ⟨hn, _⟩ | ⟨_, h, hc⟩ | ⟨_, h, hc⟩ | ⟨_, h, hc⟩
    · rw [hn] at hj; cases hj
    all_goals simp [setProc, h, hc]
  case snap =>
    by_cases hj : j = p
    · subst hj
      -- `j` is the last of the order and occurs only there
      have hnd : (before ++ [j]).Nodup := h1 ▸ hinv.nodup
      rcases snoc_eq_append_cons (h1 ▸ h : before ++ [j] = b2 ++ j :: after) with ⟨_, rfl, _⟩ | ⟨a, rfl⟩
      · simpa [setProc] using hsnap
      · exact ((List.nodup_append.mp hnd).2.2 j (by simp) j (by simp) rfl).elim
    · simp only [setProc, hj, if_false] at hr ⊢; exact hinv.snap j b2 after h hr

theorem inv_step (sys : Sys) (c0 : Bytes) (s : State) (hinv : Inv sys c0 s) (p : Nat) : Inv sys c0 (step sys s p) := by
  simp only [step]
  cases hpc : (s.procs p).pc with
  | start =>
    have hnh : s.holder ≠ some p := fun h => by simpa [active, hpc] using (hinv.act p).mpr h
    refine { hinv with
      mem := fun j => ?mem, act := fun j => ?act
      held := fun j hj => ?held, snap := fun j before after h hr => ?snap }
    case mem =>
      by_cases hj : j = p
      · subst hj; simpa [setProc, hpc] using hinv.mem j
      · rw [setProc_other hj]; exact hinv.mem j
    case act =>
      by_cases hj : j = p
      · subst hj; simpa [setProc, active] using hnh
      · rw [setProc_other hj]; exact hinv.act j
    case held =>
      have hjp : j ≠ p := fun e => hnh (e ▸ hj)
      rw [setProc_other hjp]; exact hinv.held j hj
    case snap =>
      by_cases hj : j = p
      · subst hj; simp [setProc, hasRead] at hr
      · rw [setProc_other hj] at hr ⊢; exact hinv.snap j before after h hr
  | opened =>
    by_cases hh : s.holder = none
    · simp only [hh, if_true]
      have hpnot : p ∉ s.order := by rw [hinv.mem]; simp [hpc]
      have hnd : (s.order ++ [p]).Nodup :=
        List.nodup_append.mpr ⟨hinv.nodup, by simp, fun a ha b hb e => hpnot (List.mem_singleton.mp hb ▸ e ▸ ha)⟩
      refine {
        mem := fun j => ?mem, nodup := hnd, act := fun j => ?act, free := nofun
        held := fun j hj => ?held, snap := fun j before after h hr => ?snap }
      case mem =>
        by_cases hj : j = p
        · subst hj; simp [setProc]
        · simpa [setProc, hj] using hinv.mem j
      case act =>
        by_cases hj : j = p
        · subst hj; simp [setProc, active]
        · simpa [setProc, hj, Ne.symm hj, hh] using (hinv.act j).mp
      case held =>
        cases hj
        exact ⟨s.order, rfl, fun _ => hinv.free hh, by simp [setProc], by simp [setProc]⟩
      case snap =>
        by_cases hj : j = p
        · subst hj; simp [setProc, hasRead] at hr
        · obtain ⟨hjp, _⟩ | ⟨a, ha⟩ := snoc_eq_append_cons h
          · exact absurd hjp hj
          simp only [setProc, hj, if_false] at hr ⊢
          exact hinv.snap j before a ha hr
    · simp only [hh, if_false]; exact hinv
  | locked =>
    have hh := (hinv.act p).mp (by simp [active, hpc])
    obtain ⟨before, h1, hold, -, -⟩ := hinv.held p hh
    -- the snapshot taken is the content
    exact inv_holder_step hinv hh h1 s.holder s.content (hold (.inl hpc))
      (.inr (.inl ⟨hh, rfl, hold (.inl hpc)⟩))
  | haveRead =>
    have hh := (hinv.act p).mp (by simp [active, hpc])
    obtain ⟨before, h1, hold, -, -⟩ := hinv.held p hh
    have hsn := hinv.snap p before [] h1 (by simp [hasRead, hpc])
    cases hw : sys.write p with
    | none =>
      exact inv_holder_step hinv hh h1 none s.content hsn
        (.inl ⟨rfl, rfl, by rw [hold (.inr hpc), h1, effect_snoc, hw]⟩)
    | some f =>
      exact inv_holder_step hinv hh h1 s.holder [] hsn
        (.inr (.inr (.inl ⟨hh, rfl, rfl, by rw [hw]; rfl⟩)))  -- third outcome: truncated
  | truncated =>
    have hh := (hinv.act p).mp (by simp [active, hpc])
    obtain ⟨before, h1, -, htrunc, -⟩ := hinv.held p hh
    have hsn := hinv.snap p before [] h1 (by simp [hasRead, hpc])
    cases hw : sys.write p with
    | none => have := (htrunc hpc).2; rw [hw] at this; cases this
    | some f =>
      exact inv_holder_step hinv hh h1 s.holder _ hsn
        (.inr (.inr (.inr ⟨hh, rfl, by rw [h1, effect_snoc, hw, hsn]⟩)))  -- fourth: written
  | written =>
    have hh := (hinv.act p).mp (by simp [active, hpc])
    obtain ⟨before, h1, -, -, hwritten⟩ := hinv.held p hh
    exact inv_holder_step hinv hh h1 none s.content (hinv.snap p before [] h1 (by simp [hasRead, hpc]))
      (.inl ⟨rfl, rfl, hwritten hpc⟩)
  | done => exact hinv

/-- the invariant holds after every schedule, from every initial content, for every number of processes -/
theorem inv_run (sys : Sys) (c0 : Bytes) (sched : List Nat) : Inv sys c0 (runSched sys (init c0) sched) :=
  List.foldlRecOn sched _ (inv_init sys c0) fun s h p _ => inv_step sys c0 s h p

/-- **Serialisable**: whenever nobody holds the lock (in particular at the end)
    the file equals the successful writes applied one at a time in the order
    in which the processes obtained the lock — no update is lost. -/
theorem serialisable (sys : Sys) (c0 : Bytes) (sched : List Nat)
    (h : (runSched sys (init c0) sched).holder = none) :
    (runSched sys (init c0) sched).content = effect sys c0 (runSched sys (init c0) sched).order :=
  (inv_run sys c0 sched).free h

/-- **No torn read**: what any process reads under the lock is the complete
    result of a prefix of that order — never a partially written or empty
    intermediate file. -/
theorem no_torn_read (sys : Sys) (c0 : Bytes) (sched : List Nat) (p : Nat) (before after : List Nat)
    (ho : (runSched sys (init c0) sched).order = before ++ p :: after)
    (hr : hasRead ((runSched sys (init c0) sched).procs p).pc) :
    ((runSched sys (init c0) sched).procs p).snapshot = effect sys c0 before :=
  (inv_run sys c0 sched).snap p before after ho hr

/-- at most one process is between `lock` and `unlock` -/
theorem mutual_exclusion (sys : Sys) (c0 : Bytes) (sched : List Nat) (p q : Nat)
    (hp : active ((runSched sys (init c0) sched).procs p).pc) (hq : active ((runSched sys (init c0) sched).procs q).pc) : p = q := by
  have i := inv_run sys c0 sched
  have a := (i.act p).mp hp
  have b := (i.act q).mp hq
  rw [a] at b
  exact Option.some.inj b

private def sys2 : Sys := ⟨fun p => if p = 0 then some (fun c => c ++ [1]) else if p = 1 then some (fun c => c ++ [2]) else none⟩

/-- without the lock, two writers can both read the old content and the first update is lost -/
theorem lock_is_needed :
    let s := [0, 0, 1, 1, 0, 1, 0, 0, 0, 1, 1, 1].foldl (stepNoLock sys2) (init [])
    s.content = [2] ∧ s.content ≠ effect sys2 [] [0, 1] ∧ s.content ≠ effect sys2 [] [1, 0] := by decide +kernel

/-- with the lock the same schedule serialises -/
example : (runSched sys2 (init []) [0, 0, 1, 1, 0, 1, 0, 0, 0, 1, 1, 1, 1, 1, 1]).content = [1, 2] := by decide +kernel

end C02
end Robsd
