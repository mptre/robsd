import Robsd.Model.Exec
import Robsd.Props.C09
/-
  C06: step and hook commands get their exact arguments; exit status is faithful.
-/
namespace Robsd
namespace C06
open Interp Exec

/-- the argument values, in order, when all of them interpolate -/
def values (lookup : Lookup) : List Bytes → Option (List Bytes)
  | [] => some []
  | a :: as =>
    match interpStr lookup false a, values lookup as with
    | .ok v, some vs => some (v :: vs)
    | _, _ => none

/-- **Exact step arguments**: the launched argv is the list of interpolated
    arguments, one per configured argument, with the empty ones dropped —
    nothing is split, joined or added. -/
theorem argv_exact (lookup : Lookup) (args : List Bytes) :
    stepArgv lookup args = (values lookup args).map (fun vs => vs.filter (fun v => !v.isEmpty)) := by
  induction args with
  | nil => rfl
  | cons a as ih =>
    simp only [stepArgv, values, ih]
    cases interpStr lookup false a with
    | error e => rfl
    | ok v => cases values lookup as <;> cases hv : v.isEmpty <;> simp [hv]

/-- **Exact hook arguments**: element-wise, empty results kept -/
theorem hook_argv_exact (lookup : Lookup) (args : List Bytes) :
    hookArgvList lookup args = values lookup args := by
  induction args with
  | nil => rfl
  | cons a as ih =>
    simp only [hookArgvList, values, ih]
    cases interpStr lookup false a <;> cases values lookup as <;> rfl

/-- one output value per configured argument: no word splitting -/
theorem values_length (lookup : Lookup) (args vs : List Bytes) (h : values lookup args = some vs) :
    vs.length = args.length := by
  fun_induction values lookup args generalizing vs with
  | case1 => cases h; rfl  -- no argument
  | case2 a as v vs' hvs _ ih =>  -- both interpolate
    cases h; rw [List.length_cons, ih vs' hvs, List.length_cons]
  | case3 => cases h  -- one of the two fails

/-- an argument without `$` reaches the command byte for byte, whatever it
    contains (spaces, quotes, glob characters) -/
theorem literal_arg_untouched (lookup : Lookup) (a : Bytes) (h : DOLLAR ∉ a) :
    interpStr lookup false a = .ok a :=
  interpStr_of_lit h

/-- the hook runner does nothing when no hook is configured or the list is empty -/
theorem hook_none (lookup : Lookup) : hookAction lookup none = .nothing ∧ hookAction lookup (some []) = .nothing := ⟨rfl, rfl⟩

/-- exit code passed through unchanged; signal N gives 128+N -/
theorem exit_faithful (st : WaitStatus) :
    exitstatus st 0 = (match st with | .exited c => c | .signaled s => 128 + s) := by
  unfold exitstatus
  have : ¬ (0 = SIGALRM) := by decide
  rw [if_neg this]
  cases st <;> rfl

/-- the runner exits zero iff the command exited zero -/
theorem exit_zero_iff (st : WaitStatus) : exitstatus st 0 = 0 ↔ st = .exited 0 := by
  rw [exit_faithful]
  cases st <;> simp

theorem allArgv_names {lookup : Lookup} {schedule steps : List (Bytes × List Bytes)}
    (h : allArgv lookup schedule = some steps) : steps.map (·.1) = schedule.map (·.1) := by
  fun_induction allArgv lookup schedule generalizing steps with
  | case1 => cases h; rfl  -- empty schedule
  | case4 n args rest v _ r hr ih =>  -- both resolve
    cases h; rw [List.map_cons, ih hr, List.map_cons]
  | _ => cases h  -- one of the two fails

/-- a step that cannot be resolved (unknown name, or a schedule whose command
    templates fail to interpolate) yields exit status 1 and runs nothing -/
theorem unresolved_is_1 (lookup : Lookup) (schedule : List (Bytes × List Bytes)) (name : Bytes) (st : Option WaitStatus)
    (h : allArgv lookup schedule = none ∨ ∀ s ∈ schedule, s.1 ≠ name) :
    stepExec lookup schedule name st = .notRun 1 := by
  unfold stepExec
  rcases h with h | h
  · simp [h]
  · cases ha : allArgv lookup schedule with
    | none => rfl
    | some steps =>
      have : steps.find? (fun s => s.1 == name) = none := by
        rw [List.find?_eq_none]
        intro s hs
        have hm : s.1 ∈ schedule.map (·.1) := allArgv_names ha ▸ List.mem_map_of_mem hs
        obtain ⟨t, ht, e⟩ := List.mem_map.mp hm
        simpa [← e] using h t ht
      simp [this]

/-- when the step resolves, the command runs with exactly its argv and the
    runner's exit status is the command's -/
theorem resolved_runs (lookup : Lookup) (schedule steps : List (Bytes × List Bytes)) (name : Bytes) (argv : List Bytes)
    (w : WaitStatus) (h1 : allArgv lookup schedule = some steps) (h2 : steps.find? (fun s => s.1 == name) = some (name, argv)) :
    stepExec lookup schedule name (some w) = .ran argv (exitstatus w 0) := by
  unfold stepExec
  simp [h1, h2]

-- t = "", v = "a b"; the arguments are `sh`, `${t}`, `${v}`, `* '`
private def env1 : Lookup := fun n => if n = [116] then some [] else if n = [118] then some [97, 32, 98] else none
example : stepArgv env1 [[115, 104], [36, 123, 116, 125], [36, 123, 118, 125], [42, 32, 39]] =
    some [[115, 104], [97, 32, 98], [42, 32, 39]] := by
  rw [argv_exact]
  have e1 : interpStr env1 false [115, 104] = .ok [115, 104] := literal_arg_untouched _ _ (by decide)
  have e4 : interpStr env1 false [42, 32, 39] = .ok [42, 32, 39] := literal_arg_untouched _ _ (by decide)
  have e2 : interpStr env1 false [36, 123, 116, 125] = .ok [] :=
    C09.interp_complete env1 4 _ _ (C09.Expands.ref 3 [] [116] [] [] [] [] (by decide) (by decide) (by decide) rfl
      (C09.Expands.lit 2 [] (by decide)) (C09.Expands.lit 3 [] (by decide)))
  have e3 : interpStr env1 false [36, 123, 118, 125] = .ok [97, 32, 98] :=
    C09.interp_complete env1 4 _ _ (C09.Expands.ref 3 [] [118] [] [97, 32, 98] [97, 32, 98] [] (by decide) (by decide) (by decide) rfl
      (C09.Expands.lit 2 [97, 32, 98] (by decide)) (C09.Expands.lit 3 [] (by decide)))
  simp [values, e1, e2, e3, e4]

end C06
end Robsd
