import Robsd.Model.Lock
/-
  C11, the lock file.

  * `second_refused` — an invocation (fresh or resumed, whatever its directory
    is called) that starts while `.running` names another one exits non-zero and
    leaves the world exactly as it was: lock, reports, mails.
  * `lock_names_then_gone` — an invocation that finds no lock holds it, under
    its own name, from `lock_acquire` to the exit trap, and the file is gone
    afterwards.
  * `report_own_directory` — whatever sequence of invocations runs, every report
    is written into the directory of the invocation it describes, and at most
    one per invocation that failed or reached `end`.
  * `kill_seen` — after robsd-kill made the lock immutable, `lock_alive` fails.
  * `acquire_not_atomic` — lock_acquire is a read followed by a write: two
    invocations that both read before either writes both believe they own the
    root.  Outside the property ("started meanwhile" = while the lock already
    names the first), recorded here as what the protocol does not give.
-/
namespace Robsd
namespace C11Lock
open Lock

theorem second_refused (w : World) (a b : Bytes) (hab : a ≠ b) (hl : w.lock = some a)
    (hadSteps : Bool) (e : Int) (en dt : Bool) :
    invoke w b hadSteps e en dt = (w, 1) := by
  have h1 : mayAcquire w.lock b = false := by simp [mayAcquire, hl, hab]
  have h2 : (w.lock == some b) = false := by simp [hl, hab]
  simp [invoke, acquire, h1, trapExit, h2, release]

theorem acquire_free {w : World} (hl : w.lock = none) (hi : w.immutable = false) (a : Bytes) :
    acquire w a = ({ w with lock := some a }, true) := by
  simp [acquire, mayAcquire, writeLock, hl, hi]

theorem lock_names_then_gone (w : World) (a : Bytes) (hl : w.lock = none) (hi : w.immutable = false)
    (e : Int) (en dt : Bool) :
    (acquire w a).2 = true ∧ (acquire w a).1.lock = some a ∧ alive (acquire w a).1 a = true ∧
    (invoke w a false e en dt).1.lock = none ∧ (invoke w a false e en dt).2 = e := by
  have h := acquire_free hl hi a
  refine ⟨by rw [h], by rw [h], by simp [h, alive, hi], ?_, by simp only [invoke, h]⟩
  simp only [invoke, h, trapExit]
  split <;> simp [release]

/-- reports land in the directory of the invocation they describe -/
def ownReports (w : World) : Prop := ∀ r ∈ w.reports, r.1 = r.2

theorem release_reports (w : World) (d : Bytes) : (release w d).reports = w.reports := by
  unfold release; split <;> rfl

theorem trapExit_reports (w : World) (d : Bytes) (hs : Bool) (e : Int) (en dt : Bool) :
    (trapExit w d hs e en dt).reports =
      w.reports ++ if w.lock == some d && hs && (e != 0 || en) then [(d, d)] else [] := by
  rw [trapExit, release_reports]
  split
  · next hc =>
    -- the report goes where the lock points, and the lock names `d`
    have hl : w.lock = some d := by simp only [Bool.and_eq_true, beq_iff_eq] at hc; exact hc.1.1
    rw [hl]
  · exact (List.append_nil _).symm

theorem invoke_ownReports {w : World} (h : ownReports w) (d : Bytes) (hs : Bool) (e : Int) (en dt : Bool) :
    ownReports (invoke w d hs e en dt).1 := by
  have key {w' : World} (h' : ownReports w') (hs' : Bool) (e' : Int) (en' : Bool) :
      ownReports (trapExit w' d hs' e' en' dt) := fun r hr => by
    rw [trapExit_reports, List.mem_append] at hr
    rcases hr with hr | hr
    · exact h' r hr
    · split at hr
      · cases List.mem_singleton.mp hr; rfl
      · cases hr
  have hw : ownReports (writeLock w d) := by unfold writeLock; split <;> exact h
  -- refused or accepted, the exit trap runs
  cases hm : mayAcquire w.lock d <;> simp only [invoke, acquire, hm, Bool.false_eq_true, if_false, if_true]
  · exact key h _ _ _
  · exact key hw _ _ _

/-- any sequence of (non-interleaved) invocations, each given by the arguments of `invoke` -/
def runAll : World → List (Bytes × Bool × Int × Bool × Bool) → World
  | w, [] => w
  | w, (d, hs, e, en, dt) :: rest => runAll (invoke w d hs e en dt).1 rest

theorem report_own_directory (invs : List (Bytes × Bool × Int × Bool × Bool)) :
    ∀ w, ownReports w → ownReports (runAll w invs) := by
  induction invs with
  | nil => exact fun _ h => h
  | cons i rest ih =>
    obtain ⟨d, hs, e, en, dt⟩ := i
    exact fun w h => ih _ (invoke_ownReports h d hs e en dt)

theorem kill_seen (w : World) (a : Bytes) (hl : w.lock = some a) : alive (kill w) a = false := by
  simp [kill, hl, alive]

/-- **Ended by robsd-kill, the lock is gone afterwards** (and no longer
    immutable), the report of the terminated step is written to the
    invocation's own directory, mailed once in the background: the immutable
    flag only tells the run to stop, it does not keep `lock_release` from
    releasing. -/
theorem killed_lock_released (w : World) (a : Bytes) (err : Int) (dt : Bool) (hl : w.lock = some a) (he : err ≠ 0) :
    (killed w a err dt).lock = none ∧ (killed w a err dt).immutable = false ∧
    (killed w a err dt).reports = w.reports ++ [(a, a)] ∧
    (killed w a err dt).mails = (if dt then w.mails ++ [a] else w.mails) := by
  have h1 : (err != 0) = true := by simpa using he
  simp [killed, kill, trapExit, release, hl, h1]

/-- and the next invocation is accepted -/
theorem after_kill_next_accepted (w : World) (a b : Bytes) (err : Int) (dt : Bool) (hl : w.lock = some a) (he : err ≠ 0) :
    (acquire (killed w a err dt) b).2 = true ∧ (acquire (killed w a err dt) b).1.lock = some b := by
  obtain ⟨h1, h2, -, -⟩ := killed_lock_released w a err dt hl he
  rw [acquire_free h1 h2]
  exact ⟨rfl, rfl⟩

/-- both invocations read the lock before either writes it: both proceed -/
theorem acquire_not_atomic (a b : Bytes) (hab : a ≠ b) :
    let w : World := {}
    mayAcquire w.lock a = true ∧ mayAcquire w.lock b = true ∧
    (writeLock (writeLock w a) b).lock = some b ∧ alive (writeLock (writeLock w a) b) a = false := by
  simp [mayAcquire, writeLock, alive, Ne.symm hab]

example : invoke {} [65] false 0 true true = ({ reports := [([65], [65])], mails := [[65]] }, 0) := by decide +kernel
example : invoke { lock := some [65] } [66] true 0 false true = ({ lock := some [65] }, 1) := by decide +kernel
example : killed { lock := some [65] } [65] 143 true = { reports := [([65], [65])], mails := [[65]] } := by decide +kernel

end C11Lock
end Robsd
