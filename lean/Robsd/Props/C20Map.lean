import Robsd.Lemmas.Map
/-
  C20 (hash map part): libks/map.c behaves as an insertion-ordered association
  list, for EVERY hash function.

  The hash function is a parameter: bucket placement, bucket expansion,
  `expand_mult`, `ideal_chain_maxlen`, `nonideal_items`, `ineff_expands` and
  the `noexpand` state are therefore unobservable.
-/
namespace Robsd
namespace C20Map
open Map

structure Spec where
  al : List (Nat × Bytes) := []
  next : Nat := 0

def Spec.step (sp : Spec) : Op → Spec × Out
  | .insert k => (⟨sp.al ++ [(sp.next, k)], sp.next + 1⟩, .elem sp.next)
  | .find k => (sp, .found ((sp.al.find? (fun p => p.2 == k)).map (·.1)))
  | .remove k => (⟨sp.al.filter (fun p => p.2 != k), sp.next⟩, .unit)
  | .iterAll ks => (⟨sp.al.filter (fun p => !ks.contains p.2), sp.next⟩, .iter (sp.al.map (·.1)) true)

def Spec.run : Spec → List Op → Spec × List Out
  | sp, [] => (sp, [])
  | sp, op :: ops =>
    let r := sp.step op
    let r' := Spec.run r.1 ops
    (r'.1, r.2 :: r'.2)

/-- the caller's side of the contract: a key is inserted only while absent -/
def Spec.pre (sp : Spec) : Op → Prop
  | .insert k => ∀ p ∈ sp.al, p.2 ≠ k
  | _ => True

def Spec.guarded : Spec → List Op → Prop
  | _, [] => True
  | sp, op :: ops => sp.pre op ∧ Spec.guarded (sp.step op).1 ops

def abs (s : St) : List (Nat × Bytes) := s.order.map (fun e => (e.id, e.key))

theorem guarded_append (a b : List Op) : ∀ (sp : Spec), sp.guarded (a ++ b) ↔
    sp.guarded a ∧ (sp.run a).1.guarded b := by
  induction a with
  | nil => intro sp; simp [Spec.guarded, Spec.run]
  | cons x xs ih => intro sp; simp only [List.cons_append, Spec.guarded, Spec.run, ih, and_assoc]

theorem run_append (h : Bytes → Nat) (a b : List Op) : ∀ s, run h s (a ++ b) =
    ((run h (run h s a).1 b).1, (run h s a).2 ++ (run h (run h s a).1 b).2) := by
  induction a with
  | nil => intro s; rfl
  | cons x xs ih => intro s; simp only [List.cons_append, run, ih]

theorem guarded_inserts (ks : List Bytes) : ∀ (sp : Spec), (sp.al.map (·.2) ++ ks).Nodup →
    sp.guarded (ks.map .insert) := by
  induction ks with
  | nil => intro _ _; trivial
  | cons k ks ih =>
    intro sp hn
    exact ⟨fun p hp e => not_mem_of_nodup_append_cons hn (e ▸ List.mem_map_of_mem hp),
      ih _ (by simpa [Spec.step] using hn)⟩

/-- HASH_FIND is a dictionary lookup, for every hash function -/
theorem find_is_lookup (h : Bytes → Nat) (s : St) (k : Bytes) (hi : Inv h s) (hk : KeysNodup s.order) :
    find h s k = s.order.find? (fun e => e.key == k) := find_eq_find? hi hk k

/-- bucket expansion does not change any lookup -/
theorem find_after_expand (h : Bytes → Nat) (s : St) (k : Bytes) (hi : Inv h s) (hk : KeysNodup s.order) :
    find h { s with table := expand s.table } k = find h s k := by
  have hi' : Inv h { s with table := expand s.table } := { hi with tbl := fun ho => tinv_expand (hi.tbl ho) }
  rw [find_eq_find? hi' hk k, find_eq_find? hi hk k]

theorem succ?_append (kept rest : List Elem) (e : Elem) (hn : e ∉ kept) :
    succ? (kept ++ e :: rest) e = rest.head? := by
  induction kept with
  | nil => simp [succ?]
  | cons x xs ih =>
    simp only [List.mem_cons, not_or] at hn
    simp only [List.cons_append, succ?]
    rw [if_neg (fun hx => hn.1 hx.symm)]
    exact ih hn.2

/-- One call of map_iterate.  `rest` is what has not been returned yet; the
    entries in front of it may have been removed or kept at will. -/
theorem iterate_next (s : St) (it : Iter) (kept rest : List Elem)
    (ho : s.order = kept ++ rest) (hn : s.order.Nodup)
    (hit : it = ⟨true, rest.head?⟩ ∨ (it = {} ∧ kept = [])) :
    iterate s it = match rest with
      | [] => (.done, it)
      | e :: r => (.elem e, ⟨true, r.head?⟩) := by
  rcases hit with rfl | ⟨rfl, rfl⟩
  · cases rest with
    | nil => simp [iterate]
    | cons e r =>
      have hmem : e ∈ s.order := by simp [ho]
      simp only [iterate, List.head?_cons, Bool.true_eq_false, false_and, if_false, hmem, if_true]
      rw [ho, succ?_append kept r e (not_mem_of_nodup_append_cons (ho ▸ hn))]
  · rw [List.nil_append] at ho
    cases rest <;> simp [iterate, ho]

/-- the loop from any call on; `rest.length + 1` calls end it (at the start that is the fuel `step` passes) -/
theorem drain_spec (h : Bytes → Nat) (rm : Elem → Bool) (rest : List Elem) :
    ∀ (s : St) (it : Iter) (kept acc : List Elem),
      Inv h s → KeysNodup s.order → s.order = kept ++ rest →
      (it = ⟨true, rest.head?⟩ ∨ (it = {} ∧ kept = [])) →
      let s' := rest.foldl (fun s e => if rm e then remove h s e.key else s) s
      drain h rm (rest.length + 1) s it acc = (acc.reverse ++ rest, s', true) ∧ Inv h s' ∧
        s'.order = kept ++ rest.filter (fun e => !rm e) ∧ s'.next = s.next := by
  induction rest with
  | nil =>
    intro s it kept acc hi hk ho hit
    have := iterate_next s it kept [] ho hi.nodup hit
    exact ⟨by simp [drain, this], hi, by simpa using ho, rfl⟩
  | cons e r ih =>
    intro s it kept acc hi hk ho hit
    rw [List.length_cons, drain, iterate_next s it kept (e :: r) ho hi.nodup hit]
    simp only [List.foldl_cons, List.filter_cons]
    cases hrm : rm e
    · -- `simpa` moves `e` over: `(kept ++ [e]) ++ l` is `kept ++ e :: l`, `(e :: acc).reverse ++ r` is `acc.reverse ++ e :: r`
      simpa using ih s ⟨true, r.head?⟩ (kept ++ [e]) (e :: acc) hi hk (by simp [ho]) (Or.inl rfl)
    · have ⟨hi', ho', hn'⟩ := inv_remove hi hk e.key
      have hord : (remove h s e.key).order = kept ++ r := by
        rw [ho', ← erase_eq_filter_key hi.nodup hk (by simp [ho]), ho,
          List.erase_append_right _ (not_mem_of_nodup_append_cons (ho ▸ hi.nodup)), List.erase_cons_head]
      simpa [hn'] using ih (remove h s e.key) ⟨true, r.head?⟩ kept (e :: acc) hi'
        (ho' ▸ hk.sublist List.filter_sublist) hord (Or.inl rfl)

theorem drain_all (h : Bytes → Nat) (rm : Elem → Bool) (s : St) (hi : Inv h s) (hk : KeysNodup s.order) :
    let s' := s.order.foldl (fun s e => if rm e then remove h s e.key else s) s
    drain h rm (s.order.length + 1) s {} [] = (s.order, s', true) ∧ Inv h s' ∧
      s'.order = s.order.filter (fun e => !rm e) ∧ s'.next = s.next :=
  drain_spec h rm s.order s {} [] [] hi hk rfl (Or.inr ⟨rfl, rfl⟩)

/-- a complete iteration returns every live entry exactly once, in insertion
    order, and leaves the map unchanged -/
theorem iterate_exactly_once (h : Bytes → Nat) (s : St) (hi : Inv h s) (hk : KeysNodup s.order) :
    drain h (fun _ => false) (s.order.length + 1) s {} [] = (s.order, s, true) := by
  rw [(drain_all h (fun _ => false) s hi hk).1]
  -- a step of the fold is `if false then … else b`, definitionally `b`: the hypothesis `e : b = s` is the goal
  exact congrArg (s.order, ·, true) (List.foldlRecOn (motive := (· = s)) s.order _ rfl fun _ e _ _ => e)

/-- removing the current entry in the loop body: every entry is still returned
    exactly once, in insertion order, no freed entry is touched, and exactly the
    removed ones are gone afterwards -/
theorem iterate_while_removing (h : Bytes → Nat) (rm : Elem → Bool) (s : St) (hi : Inv h s)
    (hk : KeysNodup s.order) :
    ∃ s', drain h rm (s.order.length + 1) s {} [] = (s.order, s', true) ∧
      s'.order = s.order.filter (fun e => !rm e) ∧ Inv h s' :=
  have ⟨hdrain, hi', ho', _⟩ := drain_all h rm s hi hk
  ⟨_, hdrain, ho', hi'⟩

structure Sim (h : Bytes → Nat) (s : St) (sp : Spec) : Prop where
  inv : Inv h s
  keys : KeysNodup s.order
  al : abs s = sp.al
  next : s.next = sp.next

theorem sim_init (h : Bytes → Nat) : Sim h {} {} := ⟨inv_nil h rfl, by simp [KeysNodup], rfl, rfl⟩

theorem Sim.spec_keys {h s sp} (r : Sim h s sp) : (sp.al.map (·.2)).Nodup := by
  have := r.keys
  rwa [← r.al, abs, List.map_map]

theorem Sim.filter {h s s' sp} (r : Sim h s sp) (p : Bytes → Bool) (hi : Inv h s')
    (ho : s'.order = s.order.filter (fun e => p e.key)) (hn : s'.next = s.next) :
    Sim h s' ⟨sp.al.filter (fun q => p q.2), sp.next⟩ := by
  refine ⟨hi, ho ▸ r.keys.sublist List.filter_sublist, ?_, hn.trans r.next⟩
  rw [← r.al, abs, ho, abs, List.filter_map]
  rfl

theorem sim_step {h s sp} (r : Sim h s sp) (op : Op) (hg : sp.pre op) :
    (step h s op).2 = (sp.step op).2 ∧ Sim h (step h s op).1 (sp.step op).1 := by
  have ⟨hi, hk, ha, hn⟩ := r
  cases op with
  | insert k =>
    exact ⟨congrArg Out.elem hn,
      { inv := inv_insert hi k
        keys := nodup_map_concat.mpr ⟨hk, fun e he => hg (e.id, e.key) (ha ▸ List.mem_map.mpr ⟨e, he, rfl⟩)⟩
        al := by simp [step, Spec.step, Map.insert, abs, ← ha, hn]
        next := congrArg (· + 1) hn }⟩
  | find k =>
    refine ⟨?_, r⟩
    simp only [step, Spec.step, Out.found.injEq]
    rw [find_eq_find? hi hk k, ← ha, abs, List.find?_map]
    simp [Option.map_map, Function.comp_def]
  | remove k =>
    have ⟨hi', ho, hn'⟩ := inv_remove hi hk k
    exact ⟨rfl, r.filter (· != k) hi' ho hn'⟩
  | iterAll ks =>
    have ⟨h1, hi', ho, hn'⟩ := drain_all h (fun e => ks.contains e.key) s hi hk
    simp only [step, Spec.step, h1]
    exact ⟨by simp [← ha, abs], r.filter (fun k => !ks.contains k) hi' ho hn'⟩

theorem sim_run {h} (ops : List Op) : ∀ {s sp}, Sim h s sp → sp.guarded ops →
    (run h s ops).2 = (sp.run ops).2 ∧ Sim h (run h s ops).1 (sp.run ops).1 := by
  induction ops with
  | nil => intro s sp r _; exact ⟨rfl, r⟩
  | cons op ops ih =>
    intro s sp r hg
    have hs := sim_step r op hg.1
    have hr := ih hs.2 hg.2
    exact ⟨by simp only [run, Spec.run]; rw [hs.1, hr.1], hr.2⟩

/-- **C20, map**: for every hash function and every operation sequence in which
    a key is inserted only while absent, libks/map.c answers like the
    insertion-ordered association list. -/
theorem map_refines (h : Bytes → Nat) (ops : List Op) :
    ∀ (s : St) (sp : Spec), Inv h s → KeysNodup s.order → abs s = sp.al → s.next = sp.next →
      sp.guarded ops →
      (run h s ops).2 = (sp.run ops).2 ∧ abs (run h s ops).1 = (sp.run ops).1.al ∧
      Inv h (run h s ops).1 := by
  intro s sp hi hk ha hn hg
  have r := sim_run ops ⟨hi, hk, ha, hn⟩ hg
  exact ⟨r.1, r.2.al, r.2.inv⟩

/-- from the empty map -/
theorem map_refines_init (h : Bytes → Nat) (ops : List Op) (hg : ({} : Spec).guarded ops) :
    (run h {} ops).2 = (({} : Spec).run ops).2 ∧ abs (run h {} ops).1 = (({} : Spec).run ops).1.al :=
  let r := sim_run ops (sim_init h) hg
  ⟨r.1, r.2.al⟩

/-- the table invariant holds in every reachable state -/
theorem inv_reachable (h : Bytes → Nat) (ops : List Op) (hg : ({} : Spec).guarded ops) :
    Inv h (run h {} ops).1 :=
  (sim_run ops (sim_init h) hg).2.inv

def touches (k : Bytes) : Op → Bool
  | .remove k' => k' == k
  | .iterAll ks => ks.contains k
  | _ => false

theorem spec_entry_survives (k : Bytes) (i : Nat) (ops : List Op) :
    ∀ (sp : Spec), (i, k) ∈ sp.al → (∀ op ∈ ops, touches k op = false) → (i, k) ∈ (sp.run ops).1.al := by
  induction ops with
  | nil => intro sp hm _; exact hm
  | cons op ops ih =>
    intro sp hm ht
    refine ih (sp.step op).1 ?_ (fun o ho => ht o (List.mem_cons_of_mem _ ho))
    have hto := ht op List.mem_cons_self
    cases op with
    | insert k' => exact List.mem_append_left _ hm
    | find k' => exact hm
    | remove k' => exact List.mem_filter.mpr ⟨hm, bne_iff_ne.mpr (Ne.symm (beq_eq_false_iff_ne.mp hto))⟩
    | iterAll ks => exact List.mem_filter.mpr ⟨hm, by rw [show ks.contains (i, k).2 = false from hto]; rfl⟩

/-- Insert `k` (absent) in any reachable state, run any further operations that
    do not remove `k`: `find k` returns the element created by that insert — the
    value has not moved, whatever growth happened in between. -/
theorem value_address_stable (h : Bytes → Nat) (pre post : List Op) (k : Bytes)
    (hg : ({} : Spec).guarded (pre ++ Op.insert k :: post))
    (ht : ∀ op ∈ post, touches k op = false) :
    let s1 := (run h {} pre).1
    let s2 := (run h (Map.insert h s1 k).1 post).1
    (find h s2 k).map (·.id) = some (Map.insert h s1 k).2.id := by
  intro s1 s2
  have ⟨g1, gk, g2⟩ := (guarded_append pre (Op.insert k :: post) {}).mp hg
  have r1 := (sim_run pre (sim_init h) g1).2
  have r2 := (sim_run post (sim_step r1 (.insert k) gk).2 g2).2
  -- `find` on the map is `find` on the specification, where the new entry still is
  have hf := Out.found.inj (sim_step r2 (.find k) trivial).1
  have hin : (s1.next, k) ∈ (((({} : Spec).run pre).1.step (.insert k)).1).al := by
    simp [Spec.step, s1, r1.next]
  exact hf.trans (congrArg (Option.map (·.1))
    (find?_eq_of_nodup_map r2.spec_keys (spec_entry_survives k _ post _ hin ht) fun _ => beq_iff_eq))

/-! ### non-vacuity: concrete runs that meet the hypotheses and cross expansions -/

instance Spec.decPre (sp : Spec) (op : Op) : Decidable (sp.pre op) := by
  cases op <;> unfold Spec.pre <;> infer_instance

instance Spec.decGuarded : (sp : Spec) → (ops : List Op) → Decidable (sp.guarded ops)
  | _, [] => isTrue trivial
  | sp, op :: ops => by
    unfold Spec.guarded
    exact @instDecidableAnd _ _ (Spec.decPre sp op) (Spec.decGuarded (sp.step op).1 ops)

def exKey (n : Nat) : Bytes := [UInt8.ofNat (n / 256), UInt8.ofNat (n % 256)]
def exIns (n : Nat) : List Op := (List.range n).map (fun i => Op.insert (exKey i))

theorem exKey_inj {a b : Nat} (ha : a < 256 * 256) (hb : b < 256 * 256) (e : exKey a = exKey b) : a = b := by
  simp only [exKey, List.cons.injEq, and_true, ← UInt8.toNat_inj, UInt8.toNat_ofNat', Nat.reducePow,
    Nat.mod_mod, Nat.mod_eq_of_lt (Nat.div_lt_of_lt_mul ha), Nat.mod_eq_of_lt (Nat.div_lt_of_lt_mul hb)] at e
  rw [← Nat.div_add_mod a 256, ← Nat.div_add_mod b 256, e.1, e.2]

theorem guarded_exIns (n : Nat) (hn : n ≤ 256 * 256) : ({} : Spec).guarded (exIns n) := by
  rw [show exIns n = ((List.range n).map exKey).map .insert from List.map_map.symm]
  refine guarded_inserts _ _ (List.pairwise_map.mpr (List.nodup_range.imp_of_mem fun ha hb hab e => ?_))
  rw [List.mem_range] at ha hb
  exact hab (exKey_inj (Nat.lt_of_lt_of_le ha hn) (Nat.lt_of_lt_of_le hb hn) e)

/-- the guard is satisfiable by a long sequence with removals and iteration -/
example : ({} : Spec).guarded (exIns 120 ++ [.remove (exKey 3), .iterAll [exKey 5], .insert (exKey 3)]) :=
  (guarded_append _ _ _).mpr ⟨guarded_exIns 120 (by decide), by decide +kernel⟩

/-- with a constant hash 120 insertions cross two expansions and end in the
    `noexpand` state — the theorems cover it because the hash is arbitrary -/
example : (run (fun _ => 0) {} (exIns 120)).1.table.noexpand = true ∧
    (run (fun _ => 0) {} (exIns 120)).1.table.buckets.length = 128 := by decide +kernel

/-- Jenkins' hash: 200 keys, one expansion, lookups/removal/iteration as specified -/
example : (run jen {} (exIns 200 ++ [.find (exKey 3), .remove (exKey 3), .find (exKey 3),
      .iterAll [exKey 5, exKey 199], .find (exKey 5), .find (exKey 198)])).2.drop 200 =
    [.found (some 3), .unit, .found none,
     .iter ((List.range 200).filter (· ≠ 3)) true, .found none, .found (some 198)] ∧
    (run jen {} (exIns 200)).1.table.buckets.length = 64 := by
  -- Everything is evaluated except the loop of `iterAll`: each of its 200 calls of `iterate`
  -- searches the list twice, so the loop is replaced by what `drain_all` says it computes.
  have r := (sim_run (exIns 200 ++ [.find (exKey 3), .remove (exKey 3), .find (exKey 3)]) (sim_init jen)
    ((guarded_append _ _ _).mpr ⟨guarded_exIns 200 (by decide), by decide⟩)).2
  rw [show exIns 200 ++ [.find (exKey 3), .remove (exKey 3), .find (exKey 3),
      .iterAll [exKey 5, exKey 199], .find (exKey 5), .find (exKey 198)] =
      (exIns 200 ++ [.find (exKey 3), .remove (exKey 3), .find (exKey 3)]) ++
      [.iterAll [exKey 5, exKey 199], .find (exKey 5), .find (exKey 198)] from by simp,
    run_append, run, step, (drain_all jen _ _ r.inv r.keys).1]
  decide +kernel

end C20Map
end Robsd
