import Robsd.Model.StepNext
import Robsd.Lemmas.ListFacts
/-
  C03: resume restarts exactly at the step that did not complete successfully.

  Part 1 (`stepNextRev_eq_find`): the decision table of `step_next` over arbitrary rows.
  Part 2: the sequential orchestrator as a write-by-write machine.  `Good c f q`
  says what every file between two writes looks like: skip records agree with
  the skip set, every non-skipped step before the frontier `q` is completed
  with exit 0, nothing after `q` is recorded.  It holds after every prefix of
  the writes of a fresh or resumed invocation (= every kill point), for any
  number of kill/resume cycles, and it determines where a resume starts and
  which steps it runs.
-/
namespace Robsd
namespace C03
open StepFile OrchSeq

/-- **The decision table of `step_next`**: the last record that is not a skip
    record decides: same id if it failed, is in flight (exit -1) or is `end`;
    the following id if it succeeded; no such record, no resume point. -/
theorem stepNextRev_eq_find (rs : List Row) :
    stepNextRev rs = (rs.find? (fun r => !rowSkip r)).map
      (fun r => if rowExit r ≠ 0 ∨ rowName r = END then rowKey r else rowKey r + 1) := by
  induction rs with
  | nil => rfl
  | cons r rs ih =>
    cases h : rowSkip r
    · simp only [stepNextRev, h, Bool.false_eq_true, if_false, List.find?_cons_of_pos, Bool.not_false, Option.map_some]
      split <;> rfl
    · simp [stepNextRev, h, ih]

theorem hasSteps_eq_any (rows : List Row) : hasSteps rows = rows.any (fun r => !rowSkip r) := by
  induction rows with
  | nil => rfl
  | cons r rs ih => cases h : rowSkip r <;> simp [hasSteps, h, ih]

theorem stepNext_last (pre post : List Row) (r : Row) (hr : rowSkip r = false)
    (hpost : ∀ x ∈ post, rowSkip x = true) :
    stepNext (pre ++ r :: post) =
      some (if rowExit r ≠ 0 ∨ rowName r = END then rowKey r else rowKey r + 1) := by
  rw [stepNext, stepNextRev_eq_find, List.reverse_append, List.reverse_cons, List.append_assoc, List.find?_append,
    List.find?_eq_none.mpr (by simpa using hpost)]
  simp [hr]

/-- **An interrupted invocation stays resumable**: the exit handler keeps the
    directory (`has_steps`) if and only if `step_next` finds a resume point. -/
theorem dir_kept_iff_resumable (rows : List Row) :
    hasSteps rows = (stepNext rows).isSome := by
  rw [hasSteps_eq_any, stepNext, stepNextRev_eq_find, Option.isSome_map, List.isSome_find?, List.any_reverse]

/-- the report is only ever generated for a directory that is kept -/
theorem report_implies_kept (rows : List Row) (own : Bool) (err : Int) :
    (trapExitDecision rows own err).1 = true → (trapExitDecision rows own err).2 = true := by
  intro h
  simp only [trapExitDecision, Bool.and_eq_true] at h ⊢
  exact h.1.2

/-- a record of a started step (in flight, completed, failed) keeps the directory -/
theorem started_step_keeps_dir (pre post : List Row) (r : Row) (hr : rowSkip r = false) :
    hasSteps (pre ++ r :: post) = true := by
  simp [hasSteps_eq_any, hr]

/-- **A step that was terminated (robsd-kill, SIGTERM: recorded with a non-zero
    exit) or left in flight (exit -1) is where the invocation resumes**, and the
    exit handler keeps the directory for it: whatever skip records follow. -/
theorem terminated_step_resumed (pre post : List Row) (r : Row) (hr : rowSkip r = false) (he : rowExit r ≠ 0)
    (hpost : ∀ x ∈ post, rowSkip x = true) :
    hasSteps (pre ++ r :: post) = true ∧ stepNext (pre ++ r :: post) = some (rowKey r) := by
  refine ⟨started_step_keeps_dir pre post r hr, ?_⟩
  rw [stepNext_last pre post r hr hpost, if_pos (Or.inl he)]

/-- only skip records: the directory goes and resuming fails -/
theorem only_skips_removed (rows : List Row) (h : ∀ r ∈ rows, rowSkip r = true) :
    hasSteps rows = false ∧ stepNext rows = none := by
  have hn : stepNext rows = none := by
    rw [stepNext, stepNextRev_eq_find, List.find?_eq_none.mpr (by simpa using h)]
    rfl
  exact ⟨by rw [dir_kept_iff_resumable, hn]; rfl, hn⟩

/-! ### Part 2: the orchestrator write by write -/
@[simp] theorem upd_same (f : File) (i : Nat) (v : Slot) : upd f i v i = v := by simp [upd]
theorem upd_other {f : File} {i j : Nat} {v : Slot} (h : j ≠ i) : upd f i v j = f j := by simp [upd, h]

def SkipOk (c : Cfg) (f : File) : Prop := ∀ j, j < c.n → (f j = .skipped ↔ c.skip j = true)

structure Good (c : Cfg) (f : File) (q : Nat) : Prop where
  hq : q < c.n
  nskip : c.skip q = false
  skipok : SkipOk c f
  before : ∀ j, j < q → c.skip j = false → f j = .rcd 0
  after : ∀ j, q < j → j < c.n → c.skip j = false → f j = .empty
  endNot : c.skip (c.n - 1) = false     -- the last step is `end`, never skipped: there is a frontier

/-- the steps a correct orchestrator runs from index `i`: the non-skipped ones,
    in order, up to and including the first failing one, `end` last -/
def ideal (c : Cfg) (exits : Nat → Int) : Nat → Nat → List Nat
  | _, 0 => []
  | i, k + 1 =>
    if c.skip i then ideal c exits (i + 1) k
    else if i + 1 = c.n then [i]
    else if exits i = 0 then i :: ideal c exits (i + 1) k
    else [i]

/-- `i` is aligned with the frontier `q`: `q` is the first non-skipped index ≥ `i` -/
def Aligned (c : Cfg) (i q : Nat) : Prop := i ≤ q ∧ ∀ j, i ≤ j → j < q → c.skip j = true

theorem Aligned.refl (c : Cfg) (q : Nat) : Aligned c q q := ⟨Nat.le_refl q, fun _ h1 h2 => absurd h2 (Nat.not_lt.mpr h1)⟩

theorem Aligned.cons {c : Cfg} {i q : Nat} (hs : c.skip i = true) (ha : Aligned c (i + 1) q) : Aligned c i q :=
  ⟨Nat.le_of_succ_le ha.1, fun j h1 h2 => (Nat.eq_or_lt_of_le h1).elim (fun e => e ▸ hs) (fun h => ha.2 j h h2)⟩

theorem Aligned.cases {c : Cfg} {i q : Nat} (ha : Aligned c i q) : i = q ∨ c.skip i = true ∧ Aligned c (i + 1) q :=
  (Nat.eq_or_lt_of_le ha.1).imp_right fun hlt =>
    ⟨ha.2 i (Nat.le_refl i) hlt, hlt, fun j h1 h2 => ha.2 j (Nat.le_of_succ_le h1) h2⟩

theorem first_nonskipped (c : Cfg) (i m : Nat) (him : i ≤ m) (hm : c.skip m = false) :
    ∃ q, Aligned c i q ∧ q ≤ m ∧ c.skip q = false := by
  obtain ⟨d, rfl⟩ := Nat.exists_eq_add_of_le him
  induction d generalizing i with
  | zero => exact ⟨i, Aligned.refl c i, Nat.le_refl i, hm⟩
  | succ d ih =>
    cases hs : c.skip i with
    | false => exact ⟨i, Aligned.refl c i, him, hs⟩
    | true =>
      rw [← Nat.succ_add_eq_add_succ] at hm ⊢
      obtain ⟨q, ha, hqm, hq⟩ := ih (i + 1) (Nat.le_add_right _ _) hm
      exact ⟨q, ha.cons hs, hqm, hq⟩

theorem started_runFrom {c : Cfg} (exits : Nat → Int) {f : File} (hs : SkipOk c f) {i k : Nat}
    (hik : i + k = c.n) : started (runFrom c exits f i k) = ideal c exits i k := by
  induction k generalizing i with
  | zero => rfl
  | succ k ih =>
    have ih := ih (i := i + 1) (Nat.succ_add_eq_add_succ i k ▸ hik)
    rw [runFrom, ideal]
    -- with the test on the file read as the test on the skip set the two sides branch alike
    simp only [hs i (by omega), apply_ite started, started, ih]

theorem ideal_eq_of_aligned {c : Cfg} (exits : Nat → Int) {p q : Nat} (ha : Aligned c p q) (hq : q ≤ c.n) :
    ideal c exits p (c.n - p) = ideal c exits q (c.n - q) := by
  obtain ⟨d, rfl⟩ := Nat.exists_eq_add_of_le ha.1
  induction d generalizing p with
  | zero => rfl
  | succ d ih =>
    have hlt : p < p + (d + 1) := Nat.lt_add_of_pos_right (Nat.succ_pos d)
    obtain ⟨hs, ha'⟩ := ha.cases.resolve_left (Nat.ne_of_lt hlt)
    have hp : c.n - p = c.n - (p + 1) + 1 := by
      rw [Nat.sub_add_eq, Nat.sub_one_add_one (Nat.sub_ne_zero_of_lt (Nat.lt_of_lt_of_le hlt hq))]
    rw [hp, ideal, if_pos hs]
    rw [← Nat.succ_add_eq_add_succ p d] at ha' hq ⊢
    exact ih ha' hq

/-- every index a correct orchestrator starts from `i` is ≥ `i` and not skipped -/
theorem ideal_bounds (c : Cfg) (exits : Nat → Int) (i k : Nat) :
    ∀ j ∈ ideal c exits i k, i ≤ j ∧ c.skip j = false := by
  fun_induction ideal c exits i k with
  | case1 => nofun
  | case2 i k hs ih => exact fun j hj => ⟨Nat.le_of_succ_le (ih j hj).1, (ih j hj).2⟩  -- `i` is skipped
  | case3 i k hs _ => simpa using hs  -- `i` is `end`
  | case4 i k hs _ _ ih =>  -- `i` exits 0
    intro j hj
    rcases List.mem_cons.mp hj with rfl | hj
    · exact ⟨Nat.le_refl _, by simpa using hs⟩
    · exact ⟨Nat.le_of_succ_le (ih j hj).1, (ih j hj).2⟩
  | case5 i k hs _ _ => simpa using hs  -- `i` fails

theorem lastRec_eq_some {f : File} {k i : Nat} {e : Int} (h : lastRec f k = some (i, e)) :
    i < k ∧ f i = .rcd e ∧ ∀ j, i < j → j < k → ∀ e', f j ≠ .rcd e' := by
  fun_induction lastRec f k with
  | case1 => cases h  -- no slot
  | case2 k e' hk =>  -- slot `k` holds a record
    cases h
    exact ⟨Nat.lt_succ_self i, hk, fun j h1 h2 => absurd (Nat.lt_of_lt_of_le h1 (Nat.le_of_lt_succ h2)) (Nat.lt_irrefl i)⟩
  | case3 k hk ih =>  -- slot `k` holds no record
    obtain ⟨h1, h2, h3⟩ := ih h
    exact ⟨Nat.lt_succ_of_lt h1, h2, fun j hj1 hj =>
      (Nat.lt_succ_iff_lt_or_eq.mp hj).elim (h3 j hj1) (fun hjk => hjk ▸ hk)⟩

theorem Good.rcd_le {c : Cfg} {f : File} {q : Nat} (g : Good c f q) {j : Nat} {e : Int} (hj : j < c.n)
    (h : f j = .rcd e) : c.skip j = false ∧ j ≤ q := by
  have hs : c.skip j = false := by
    cases hs : c.skip j with
    | false => rfl
    | true => rw [(g.skipok j hj).mpr hs] at h; cases h
  refine ⟨hs, Nat.le_of_not_lt fun hlt => ?_⟩
  rw [g.after j hlt hj hs] at h; cases h

/-- **Where a resume starts.**  In a good file with frontier `q`: right after
    `q` if that step is recorded with exit 0 and is not `end`; otherwise at an
    index aligned with `q`, namely `q` itself if it is recorded (failed, in
    flight, or `end`), else right after the last completed step, all steps in
    between being skipped. -/
theorem resumeAt_good {c : Cfg} {f : File} {q p : Nat} (g : Good c f q) (hp : resumeAt c f = some p) :
    if f q = .rcd 0 ∧ q + 1 ≠ c.n then p = q + 1 else Aligned c p q := by
  have hq := g.hq
  unfold resumeAt at hp
  split at hp
  · cases hp
  next i e h =>
    obtain ⟨hin, hfi, hlast⟩ := lastRec_eq_some h
    obtain ⟨hsi, hiq⟩ := g.rcd_le hin hfi
    rcases Nat.lt_or_eq_of_le hiq with hlt | rfl
    · -- the last record is before the frontier
      have he : e = 0 := by rw [g.before i hlt hsi] at hfi; cases hfi; rfl
      rw [if_neg (not_or.mpr ⟨fun h => h he, Nat.ne_of_lt (Nat.lt_of_le_of_lt hlt hq)⟩)] at hp
      cases hp
      rw [if_neg (fun h => hlast q hlt hq 0 h.1)]
      refine ⟨hlt, fun j h1 h2 => ?_⟩
      cases hs : c.skip j with
      | true => rfl
      | false => exact absurd (g.before j h2 hs) (hlast j h1 (Nat.lt_trans h2 hq) 0)
    · -- the frontier slot holds the last record: the two tests are each other's negation
      rw [hfi]
      split at hp <;> cases hp
      next hc => rw [if_neg (fun h => hc.elim (fun he => he (Slot.rcd.inj h.1)) h.2)]; exact Aligned.refl c _
      next hc => rw [if_pos ⟨congrArg _ (Decidable.of_not_not fun h => hc (Or.inl h)), fun h => hc (Or.inr h)⟩]

theorem resumeWrites_eq_some_iff {c : Cfg} {exits : Nat → Int} {f : File} {ws : List Wr} :
    resumeWrites c exits f = some ws ↔ ∃ p, resumeAt c f = some p ∧ runFrom c exits f p (c.n - p) = ws := by
  unfold resumeWrites
  cases resumeAt c f <;> simp

theorem good_upd_frontier {c : Cfg} {f : File} {q : Nat} (g : Good c f q) (e : Int) :
    Good c (upd f q (.rcd e)) q := by
  refine { g with skipok := fun j hj => ?_, before := fun j hj hs => ?_, after := fun j h1 h2 hs => ?_ }
  · by_cases hjq : j = q
    · subst hjq; simp [g.nskip]
    · rw [upd_other hjq]; exact g.skipok j hj
  · rw [upd_other (by omega)]; exact g.before j hj hs
  · rw [upd_other (by omega)]; exact g.after j h1 h2 hs

/-- the loop stands at `i`: every non-skipped step before `i` is complete, nothing from `i` on is
    recorded; the frontier is then the first non-skipped index ≥ `i` -/
theorem good_of_cursor {c : Cfg} {f : File} {i : Nat} (hs : SkipOk c f) (hend : c.skip (c.n - 1) = false)
    (hi : i < c.n) (hb : ∀ j, j < i → c.skip j = false → f j = .rcd 0)
    (haf : ∀ j, i ≤ j → j < c.n → c.skip j = false → f j = .empty) :
    ∃ q, Good c f q ∧ Aligned c i q := by
  obtain ⟨q, ha, hq, hqs⟩ := first_nonskipped c i (c.n - 1) (Nat.le_sub_one_of_lt hi) hend
  refine ⟨q, ⟨by omega, hqs, hs, fun j hj hsj => hb j (Nat.lt_of_not_le fun hij => ?_) hsj,
    fun j h1 h2 => haf j (Nat.le_trans ha.1 (Nat.le_of_lt h1)) h2, hend⟩, ha⟩
  exact Bool.false_ne_true (hsj.symm.trans (ha.2 j hij hj))

theorem good_next {c : Cfg} {f : File} {q : Nat} (g : Good c f q) (h0 : f q = .rcd 0) (hne : q + 1 ≠ c.n) :
    ∃ q', Good c f q' ∧ Aligned c (q + 1) q' :=
  good_of_cursor g.skipok g.endNot (Nat.lt_of_le_of_ne g.hq hne)
    (fun j hj hs => (Nat.eq_or_lt_of_le (Nat.le_of_lt_succ hj)).elim (fun e => e ▸ h0) (fun h => g.before j h hs))
    (fun j => g.after j)

/-- the loop looks at the file only to see which steps are skipped, so the file `f0` it was
    started on serves for the whole run -/
theorem prefix_good {c : Cfg} (exits : Nat → Int) {f0 : File} (h0 : SkipOk c f0) {f : File} {i q k : Nat}
    (g : Good c f q) (ha : Aligned c i q) (hik : i + k = c.n) :
    ∀ P, P <+: runFrom c exits f0 i k → ∃ q', Good c (applyWs f P) q' := by
  induction k generalizing f i q with
  | zero => exact forall_prefix_nil ⟨q, g⟩
  | succ k ih =>
    have hik' : i + 1 + k = c.n := Nat.succ_add_eq_add_succ i k ▸ hik
    rw [runFrom]
    simp only [h0 i (by omega)]
    rcases ha.cases with rfl | ⟨hsk, ha'⟩
    · -- `i` is the frontier: its records all go into the frontier slot
      rw [if_neg (Bool.eq_false_iff.mp g.nskip)]
      split
      next => exact forall_prefix_cons ⟨i, g⟩ (forall_prefix_nil ⟨i, good_upd_frontier g 0⟩)  -- `end`
      next hend =>
        have g1 := good_upd_frontier g (-1)  -- in flight
        split
        · -- exit 0: the loop goes on, towards the next frontier
          obtain ⟨q', g3, ha'⟩ := good_next (good_upd_frontier g1 0) (upd_same ..) hend
          exact forall_prefix_cons ⟨i, g⟩ (forall_prefix_cons ⟨i, g1⟩ (ih g3 ha' hik'))
        · -- failure: the loop ends
          exact forall_prefix_cons ⟨i, g⟩ (forall_prefix_cons ⟨i, g1⟩ (forall_prefix_nil ⟨i, good_upd_frontier g1 _⟩))
    · -- `i` is skipped
      rw [if_pos hsk]
      exact ih g ha' hik'

/-- **Kill/resume closure**: from a good file, every kill point of a resumed
    invocation (any exit codes) is again a good file.  By induction this covers
    any number of kill/resume cycles. -/
theorem resume_good (c : Cfg) (exits : Nat → Int) (f : File) (q : Nat) (g : Good c f q)
    (ws : List Wr) (hws : resumeWrites c exits f = some ws) :
    ∀ P, P <+: ws → ∃ q', Good c (applyWs f P) q' := by
  obtain ⟨p, hp, rfl⟩ := resumeWrites_eq_some_iff.mp hws
  have hq := g.hq
  have h := resumeAt_good g hp
  split at h
  next hc =>
    obtain ⟨q', g', ha⟩ := good_next g hc.1 hc.2
    exact h ▸ prefix_good exits g.skipok g' ha (Nat.add_sub_cancel' hq)
  next => exact prefix_good exits g.skipok g h (Nat.add_sub_cancel' (Nat.le_trans h.1 (Nat.le_of_lt hq)))

/-- **What a resume runs**: from a good file a resumed invocation starts
    exactly the steps a correct orchestrator would start from the frontier:
    the frontier step itself unless it is recorded with exit 0 (and is not
    `end`), then every later non-skipped step in order up to the first failure;
    it never starts a step before the frontier. -/
theorem resume_runs (c : Cfg) (exits : Nat → Int) (f : File) (q : Nat) (g : Good c f q)
    (ws : List Wr) (hws : resumeWrites c exits f = some ws) :
    started ws =
      if f q = .rcd 0 ∧ q + 1 ≠ c.n then ideal c exits (q + 1) (c.n - (q + 1))
      else ideal c exits q (c.n - q) := by
  obtain ⟨p, hp, rfl⟩ := resumeWrites_eq_some_iff.mp hws
  have hq := g.hq
  have h := resumeAt_good g hp
  split at h
  next hc =>
    rw [if_pos hc, h]
    exact started_runFrom exits g.skipok (Nat.add_sub_cancel' hq)
  next hc =>
    rw [if_neg hc, ← ideal_eq_of_aligned exits h (Nat.le_of_lt hq)]
    exact started_runFrom exits g.skipok (Nat.add_sub_cancel' (Nat.le_trans h.1 (Nat.le_of_lt hq)))

theorem applyWs_skipRecs (ws : List Nat) (f : File) (j : Nat) :
    applyWs f (ws.map Wr.skipRec) j = if j ∈ ws then Slot.skipped else f j := by
  induction ws generalizing f with
  | nil => simp [applyWs]
  | cons w ws ih =>
    rw [List.map_cons, applyWs, List.foldl_cons, ← applyWs, ih]
    by_cases hj : j ∈ ws
    · simp [hj]
    · by_cases hjw : j = w <;> simp [hj, hjw, applyW, upd]

theorem fresh_after_skips (c : Cfg) (order : List Nat) (hn : 0 < c.n)
    (horder : ∀ j, j < c.n → (j ∈ order ↔ c.skip j = true)) (hend : c.skip (c.n - 1) = false) :
    ∃ q, Good c (applyWs (fun _ => Slot.empty) (order.map Wr.skipRec)) q ∧ Aligned c 0 q := by
  refine good_of_cursor (fun j hj => ?_) hend hn (fun j hj => absurd hj (Nat.not_lt_zero j)) (fun j _ hj hs => ?_)
  · rw [applyWs_skipRecs, ← horder j hj]
    by_cases h : j ∈ order <;> simp [h]
  · rw [applyWs_skipRecs, if_neg (fun h => Bool.false_ne_true (hs.symm.trans ((horder j hj).mp h)))]

/-- **Every kill point of a fresh invocation**: either nothing but skipped
    steps is recorded (and resuming fails), or the file is good. -/
theorem fresh_kill_points (c : Cfg) (exits : Nat → Int) (order : List Nat) (hn : 0 < c.n)
    (horder : ∀ j, j < c.n → (j ∈ order ↔ c.skip j = true)) (hend : c.skip (c.n - 1) = false) :
    ∀ P, P <+: freshWrites c exits order →
      (resumeAt c (applyWs (fun _ => Slot.empty) P) = none) ∨ ∃ q, Good c (applyWs (fun _ => Slot.empty) P) q := by
  refine forall_prefix_append (fun P hP => Or.inl ?_) (fun P hP => Or.inr ?_)
  · -- during the skip phase nothing is recorded
    rw [List.prefix_iff_eq_take.mp hP, ← List.map_take]
    unfold resumeAt
    split
    next => rfl
    next i e h =>
      have hrec := (lastRec_eq_some h).2.1
      rw [applyWs_skipRecs] at hrec
      split at hrec <;> cases hrec
  · obtain ⟨q, g, ha⟩ := fresh_after_skips c order hn horder hend
    rw [applyWs, List.foldl_append]
    exact prefix_good exits g.skipok g ha (Nat.zero_add _) P hP

/-! ### non-vacuity of the `has_steps` statements -/
private def rSkip : Row := (List.replicate 12 FVal.unknown).set skipIdx (.int 1)
private def rRun : Row := ((List.replicate 12 FVal.unknown).set skipIdx (.int 0)).set exitIdx (.int (-1))
example : hasSteps [rSkip, rSkip] = false ∧ stepNext [rSkip, rSkip] = none := by decide +kernel
example : hasSteps [rSkip, rRun, rSkip] = true ∧ (stepNext [rSkip, rRun, rSkip]).isSome = true := by decide +kernel
example : trapExitDecision [rSkip, rRun] true 1 = (true, true) ∧
          trapExitDecision [rSkip, rRun] false 1 = (false, true) ∧
          trapExitDecision [rSkip] true 1 = (false, false) := by decide +kernel

/-! ### non-vacuity: a 4-step schedule with one skipped step, killed in flight -/
private def c4 : Cfg := ⟨4, fun j => j == 1⟩
private def f4 : File := fun j => if j = 0 then .rcd 0 else if j = 1 then .skipped else if j = 2 then .rcd (-1) else .empty
example : resumeAt c4 f4 = some 2 := by decide +kernel
example : resumeWrites c4 (fun _ => 0) f4 = some [.inflight 2, .done 2 0, .endRec 3] := by decide +kernel
example : Good c4 f4 2 :=
  ⟨by decide, rfl, by unfold SkipOk; decide, by decide,
   fun j h1 h2 => (by decide : ∀ j, j < c4.n → 2 < j → c4.skip j = false → f4 j = .empty) j h2 h1, rfl⟩

end C03
end Robsd
