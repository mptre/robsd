import Robsd.Lemmas.Orch
/-
  C11: every executed step is accounted for; lock, hook and report follow the run.

  The world an invocation leaves behind is a function of the orchestrator's
  trace (`Orch.run`, proved well-formed for every oracle in C04):
  * one completed record per started step, carrying the oracle's exit status;
  * nothing left in flight when the invocation ends (it was not killed);
  * one hook call per finished step, then one for `end`;
  * a report iff a synchronous step failed or `end` was reached.
-/
namespace Robsd
namespace C11
open Orch

/-- the steps still in flight after a trace, starting from `running` -/
def openAfter : List Nat → List Ev → List Nat
  | r, [] => r
  | r, .start i _ :: rest => openAfter (r ++ [i]) rest
  | r, .finish i _ :: rest => openAfter (r.filter (· != i)) rest
  | r, .endRec _ :: rest => openAfter r rest

/-- the completed records: (step, exit) in completion order -/
def records : List Ev → List (Nat × Int)
  | [] => []
  | .finish i e :: rest => (i, e) :: records rest
  | _ :: rest => records rest

/-- the hook calls of an invocation: one per completed step, then `end` -/
def hookCalls (tr : List Ev) : List (Nat × Int) :=
  records tr ++ (tr.filterMap (fun e => match e with | .endRec i => some (i, (0 : Int)) | _ => none))

/-- a report is generated iff a step failed (non-zero exit of the invocation) or end was reached -/
def reportGenerated (r : List Ev × Bool) : Bool := !r.2 || hasEnd r.1

theorem openAfter_append (r : List Nat) (a b : List Ev) : openAfter r (a ++ b) = openAfter (openAfter r a) b := by
  induction a generalizing r with
  | nil => rfl
  | cons e es ih => cases e <;> simp [openAfter, ih]

theorem openAfter_finishAll (o : Oracle) (r gone : List Nat) :
    openAfter r (finishAll o gone) = r.filter (fun x => !gone.contains x) := by
  induction gone generalizing r with
  | nil => exact (List.filter_eq_self.mpr fun _ _ => rfl).symm
  | cons j gs ih => exact (ih _).trans (filter_ne_filter_not_contains ..)

theorem openAfter_finishAll_eq_nil (o : Oracle) {r js : List Nat} (h : r ⊆ js) : openAfter r (finishAll o js) = [] := by
  rw [openAfter_finishAll, List.filter_eq_nil_iff.mpr fun a ha => by simpa using h ha]

theorem openAfter_barrier (o : Oracle) {r js : List Nat} (h : r ⊆ js) (tr : List Ev) :
    openAfter r (finishAll o js ++ tr) = openAfter [] tr := by
  rw [openAfter_append, openAfter_finishAll_eq_nil o h]

theorem openAfter_sync (o : Oracle) {r js : List Nat} (h : r ⊆ js) (i : Nat) (e : Int) (tr : List Ev) :
    openAfter r (finishAll o js ++ .start i true :: .finish i e :: tr) = openAfter [] tr := by
  rw [openAfter_barrier o h]
  simp [openAfter]

/-- `r`, the list the count starts from, stays a subset of the jobs.  `htail` is asked of every
    subset of the new jobs: that is what lets `openAfter_runK` do without `Nodup`. -/
theorem openAfter_par (o : Oracle) {r jobs rem : List Nat} {i : Nat} {tr : List Ev} (h : r ⊆ jobs)
    (htail : ∀ r', r' ⊆ rem ++ [i] → openAfter r' tr = []) :
    openAfter r (finishAll o (jobs.filter fun j => !rem.contains j) ++ [.start i false] ++ tr) = [] := by
  rw [List.append_assoc, openAfter_append, openAfter_finishAll]
  refine htail _ fun x hx => ?_
  simp only [List.mem_append, List.mem_filter] at hx ⊢
  -- `x` is in `r` and not gone: it is a job, so it is among those left
  refine hx.imp_left fun ⟨hxr, hxg⟩ => Decidable.byContradiction fun hm => ?_
  simp [List.mem_filter, h hxr, hm] at hxg

/-- the schedule reaches a decisive step: a non-skipped synchronous step that
    either fails or is `end` (every real schedule ends with `end`) -/
def Decisive (c : Cfg) (o : Oracle) : List Step → Prop
  | [] => False
  | s :: rest =>
    if c.skip s.id then Decisive c o rest
    else if s.parallel then Decisive c o rest
    else if s.isEnd then True
    else if o.exit s.id = 0 then Decisive c o rest
    else True

/-- counted from any subset `r` of the jobs: membership in the job list is all that `openAfter` looks
    at, so the job list need not be duplicate free nor disjoint from the ids to come -/
theorem openAfter_runK (c : Cfg) (o : Oracle) (kp : Nat → Bool) (steps : List Step) (jobs : List Nat) (k : Nat)
    (r : List Nat) (hr : r ⊆ jobs) (hd : Decisive c o steps) :
    openAfter r (runK c o kp steps jobs k).1 = [] := by
  have snoc {r jobs : List Nat} (h : r ⊆ jobs) (i : Nat) : r ++ [i] ⊆ jobs ++ [i] :=
    List.append_subset.mpr ⟨List.subset_append_of_subset_left _ h, List.subset_append_right ..⟩
  -- where the loop goes on, `Decisive` unfolds along the conditions of the branch (`*`)
  fun_induction runK c o kp steps jobs k generalizing r
  case case1 => exact hd.elim  -- no step left
  case case2 ih => exact ih r hr (by simpa [Decisive, *] using hd)  -- skipped
  -- parallel, queue full; the lock found dead / alive
  case case3 => exact openAfter_par o hr fun _ => openAfter_finishAll_eq_nil o
  case case4 ih => exact openAfter_par o hr fun r' hr' => ih r' hr' (by simpa [Decisive, *] using hd)
  -- parallel, room in the queue; dead / alive
  case case5 => exact openAfter_finishAll_eq_nil o (snoc hr _)
  case case6 ih => exact ih _ (snoc hr _) (by simpa [Decisive, *] using hd)
  -- `end`
  case case7 => rw [openAfter_barrier o hr]; rfl
  -- synchronous, exit 0, lock alive
  case case9 ih =>
    rw [List.append_assoc]
    exact (openAfter_sync o hr ..).trans (ih [] (fun _ h => h) (by simpa [Decisive, *] using hd))
  -- synchronous, exit 0 and the lock dead / failed
  case case8 | case10 => exact openAfter_sync o hr ..

/-- **Nothing is left in flight**: when the invocation ends (not killed) every
    step it started has completed.  `hnd`, `hfresh` and `hids` are not used: see `openAfter_runK`. -/
theorem no_inflight_left (c : Cfg) (o : Oracle) (steps : List Step) (jobs : List Nat) (k : Nat)
    (hnd : jobs.Nodup) (hfresh : ∀ s ∈ steps, s.id ∉ jobs) (hids : (steps.map (·.id)).Nodup)
    (hd : Decisive c o steps) :
    openAfter jobs (run c o steps jobs k).1 = [] := by
  rw [← runK_eq_run c o (fun _ => false) steps jobs k fun _ _ => rfl]
  exact openAfter_runK c o _ steps jobs k jobs (fun _ h => h) hd

theorem records_append (a b : List Ev) : records (a ++ b) = records a ++ records b := by
  induction a with
  | nil => rfl
  | cons e es ih => cases e <;> simp [records, ih]

theorem records_finishAll (o : Oracle) (js : List Nat) :
    records (finishAll o js) = js.map fun j => (j, o.exit j) := by
  induction js with
  | nil => rfl
  | cons j js ih => simpa [finishAll, records] using ih

theorem records_runK (c : Cfg) (o : Oracle) (kp : Nat → Bool) (steps : List Step) (jobs : List Nat) (k : Nat) :
    ∀ p ∈ records (runK c o kp steps jobs k).1, p.2 = o.exit p.1 := by
  let F (tr : List Ev) : Prop := ∀ p ∈ records tr, p.2 = o.exit p.1
  have fin (js : List Nat) : F (finishAll o js) := fun p hp => by
    obtain ⟨j, _, rfl⟩ := List.mem_map.mp (records_finishAll o js ▸ hp)
    rfl
  have sync {i : Nat} {e : Int} (h : e = o.exit i) : F [.start i true, .finish i e] :=
    fun p hp => List.mem_singleton.mp hp ▸ h
  have app {a b : List Ev} (ha : F a) (hb : F b) : F (a ++ b) := fun p hp =>
    (List.mem_append.mp (records_append a b ▸ hp)).elim (ha p) (hb p)
  fun_induction runK c o kp steps jobs k
  case case1 => nofun  -- no step left
  -- skipped; parallel with room in the queue, lock alive / dead
  case case2 ih | case6 ih => exact ih
  case case5 => exact fin _
  -- parallel, queue full; dead / alive
  case case3 => exact app (app (fin _) nofun) (fin _)
  case case4 ih => exact app (app (fin _) nofun) ih
  -- `end`
  case case7 => exact app (fin _) nofun
  -- synchronous: exit 0 (dead / alive), failed
  case case8 hzero _ => exact app (fin _) (sync hzero.symm)
  case case9 hzero _ r ih => exact app (app (fin _) (sync hzero.symm)) ih
  case case10 => exact app (fin _) (sync rfl)

/-- every completed record carries the step's real exit status (the oracle's) -/
theorem records_faithful (c : Cfg) (o : Oracle) (steps : List Step) (jobs : List Nat) (k : Nat) :
    ∀ p ∈ records (run c o steps jobs k).1, p.2 = o.exit p.1 := by
  rw [← runK_eq_run c o (fun _ => false) steps jobs k fun _ _ => rfl]
  exact records_runK c o _ steps jobs k

/-- a report exists exactly when the invocation failed or reached `end` -/
theorem report_iff (c : Cfg) (o : Oracle) (steps : List Step) :
    reportGenerated (run c o steps [] 0) = true ↔ (run c o steps [] 0).2 = false ∨ hasEnd (run c o steps [] 0).1 = true := by
  unfold reportGenerated
  cases (run c o steps [] 0).2 <;> simp

private def c2 : Cfg := ⟨2, fun i => i == 4⟩
private def o2 : Oracle := ⟨fun i => if i == 2 then 7 else 0, fun _ j => j == 2⟩
private def steps2 : List Step := [⟨1, false, false⟩, ⟨2, true, false⟩, ⟨3, true, false⟩, ⟨4, true, false⟩, ⟨5, true, false⟩, ⟨6, false, false⟩, ⟨7, false, true⟩]
example : hookCalls (run c2 o2 steps2 [] 0).1 = [(1, 0), (3, 0), (2, 7), (5, 0), (6, 0), (7, 0)] := by decide +kernel
example : openAfter [] (run c2 o2 steps2 [] 0).1 = [] := by decide +kernel

end C11
end Robsd
