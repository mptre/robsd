import Robsd.Model.Interp
/-
  C09: interpolation substitutes exactly, always terminates and fails closed.

  `Expands env d tmpl out` is an independent inductive specification of what
  "replace each ${name} by the recursively interpolated value and copy every
  other byte" means with `d` levels of nesting available.  The model
  (`Interp.interp`, a transcription of interpolate.c) is proved sound and
  complete for it.  Termination is Lean accepting `inner`/`interp` as total
  definitions (structural in the C code's own depth counter, well-founded in
  the length of the remaining input).
-/
namespace Robsd
namespace C09
open Interp

/-- Specification: the template expands to `out` using at most `d` levels. -/
inductive Expands (env : Lookup) : Nat → Bytes → Bytes → Prop where
  | lit (d : Nat) (s : Bytes) : DOLLAR ∉ s → Expands env (d + 1) s s
  | ref (d : Nat) (pre name tail v a b : Bytes) :
      DOLLAR ∉ pre → RBRACE ∉ name → name ≠ [] → env name = some v →
      Expands env d v a → Expands env (d + 1) tail b →
      Expands env (d + 1) (pre ++ DOLLAR :: LBRACE :: name ++ RBRACE :: tail) (pre ++ a ++ b)

theorem interp_sound (env : Lookup) (d : Nat) : ∀ (s out : Bytes),
    interp env false d s = .ok out → Expands env d s out := by
  induction d with
  | zero => intro s out h; cases h
  | succ d ihd =>
    intro s
    rw [interp]
    -- of `inner`'s eight branches only these two end in `.ok` when `ign = false`
    fun_induction inner env false (interp env false d) s with
    | case1 s p hs =>  -- no `$` left
      rintro _ ⟨⟩
      obtain ⟨rfl, hnd⟩ := scan_eq_lit_iff.mp hs
      exact .lit d _ hnd
    | case7 s pre name tail hs _ v hl a hv b ht ih =>  -- value and tail both expand
      rintro _ ⟨⟩
      obtain ⟨rfl, hp, hnm, hne⟩ := scan_eq_ref_iff.mp hs
      exact .ref d pre name tail v a b hp hnm hne hl (ihd v a hv) (ih b ht)
    | _ => intro _ h; contradiction

theorem interp_complete (env : Lookup) (d : Nat) (s out : Bytes) (h : Expands env d s out) :
    interp env false d s = .ok out := by
  induction h with
  | lit d s hnd => exact interp_of_lit hnd
  | ref d pre name tail v a b hp hnm hne hl _ _ ih1 ih2 =>
    rw [interp] at ih2 ⊢
    rw [inner_eq, scan_eq_ref_iff.mpr ⟨rfl, hp, hnm, hne⟩]
    simp only [hl, ih1, ih2]

/-- Soundness and completeness: the model succeeds with `out` exactly when the
    specification derives `out`. -/
theorem interp_ok_iff_expands (env : Lookup) (d : Nat) (s out : Bytes) :
    interp env false d s = .ok out ↔ Expands env d s out :=
  ⟨interp_sound env d s out, interp_complete env d s out⟩

/-- A template without `$` is copied unchanged. -/
theorem no_dollar_identity (env : Lookup) (ign : Bool) (d : Nat) (s : Bytes) (h : DOLLAR ∉ s) :
    interp env ign (d + 1) s = .ok s :=
  interp_of_lit h

/-- A malformed reference (`$` not followed by `{`, missing `}`, empty name)
    fails, whatever precedes or follows it at this level. -/
theorem malformed_fails (env : Lookup) (ign : Bool) (d : Nat) (s : Bytes) (e : Err)
    (h : scan s = .bad e) : interp env ign (d + 1) s = .error e := by
  rw [interp, inner_eq, h]

/-- An unknown variable fails (unless the caller asked to ignore lookup errors). -/
theorem unknown_fails (env : Lookup) (d : Nat) (s pre name tail : Bytes)
    (h : scan s = .ref pre name tail) (hl : env name = none) :
    interp env false (d + 1) s = .error (.unknown name) := by
  rw [interp, inner_eq, h]
  simp [hl]

/-- Any variable whose value refers (first) to itself can never be
    interpolated: at every depth the result is an error. -/
theorem self_reference_fails (env : Lookup) (ign : Bool) (name v pre tail : Bytes)
    (hl : env name = some v) (hv : scan v = .ref pre name tail) :
    ∀ d, ∃ e, interp env ign d v = .error e := by
  intro d
  induction d with
  | zero => exact ⟨.tooDeep, rfl⟩
  | succ d ih =>
    obtain ⟨e, he⟩ := ih
    refine ⟨e, ?_⟩
    rw [interp, inner_eq, hv]
    simp [hl, he]

/-- Nothing succeeds with no nesting budget; the top-level call of the C code
    has `interpolateDepthLimit - 1` levels. -/
theorem depth_zero_fails (env : Lookup) (ign : Bool) (s : Bytes) :
    interp env ign 0 s = .error .tooDeep := rfl

/-- Line-by-line, all or nothing: a file interpolates iff every line does, and
    then the output is the lines' results each followed by a newline. -/
theorem file_all_or_nothing (env : Lookup) (ign : Bool) (ls : List Bytes) (out : Bytes) :
    interpLines env ign ls = .ok out ↔
    ∃ outs : List Bytes, ls.map (interpStr env ign) = outs.map Except.ok ∧
      out = (outs.map (fun o => o ++ [10])).flatten := by
  induction ls generalizing out with
  | nil =>
    constructor
    · rintro ⟨⟩; exact ⟨[], rfl, rfl⟩
    · rintro ⟨_ | ⟨o, os⟩, h1, rfl⟩
      · rfl
      · cases h1
  | cons l ls ih =>
    rw [interpLines]
    constructor
    · intro h
      split at h
      · cases h  -- the line fails
      · rename_i a h1
        split at h
        · cases h  -- a later line fails
        · rename_i b h2
          cases h
          obtain ⟨outs, f, rfl⟩ := (ih b).mp h2
          exact ⟨a :: outs, by simp [h1, f], by simp⟩
    · rintro ⟨_ | ⟨o, os⟩, h1, rfl⟩
      · cases h1
      · obtain ⟨ha, hos⟩ := List.cons.inj h1
        rw [ha, (ih _).mpr ⟨os, hos, rfl⟩]
        simp

/-- Fail closed: when the interpolation fails the command prints nothing. -/
theorem error_no_output (e : Err) : cliStdout (.error e) = [] := rfl

/-! ### non-vacuity: a concrete environment with a chain, a cycle and a
    malformed template meets the hypotheses of the theorems above -/
private def env1 : Lookup := fun n =>
  if n = [97] then some [120, 36, 123, 98, 125, 121]      -- a = "x${b}y"
  else if n = [98] then some [66]                           -- b = "B"
  else if n = [115] then some [36, 123, 115, 125]           -- s = "${s}"
  else none

/-- "1${a}2" expands to "1xBy2" with three levels -/
private theorem env1_expands : Expands env1 3 [49, 36, 123, 97, 125, 50] [49, 120, 66, 121, 50] :=
  Expands.ref 2 [49] [97] [50] [120, 36, 123, 98, 125, 121] [120, 66, 121] [50]
    (by decide) (by decide) (by decide) rfl
    (Expands.ref 1 [120] [98] [121] [66] [66] [121] (by decide) (by decide) (by decide) rfl
      (Expands.lit 0 [66] (by decide)) (Expands.lit 1 [121] (by decide)))
    (Expands.lit 2 [50] (by decide))
example : Expands env1 3 [49, 36, 123, 97, 125, 50] [49, 120, 66, 121, 50] := env1_expands
example : interp env1 false 3 [49, 36, 123, 97, 125, 50] = .ok [49, 120, 66, 121, 50] :=
  interp_complete _ _ _ _ env1_expands
example : ∀ d, ∃ e, interp env1 false d [36, 123, 115, 125] = .error e :=
  self_reference_fails env1 false [115] [36, 123, 115, 125] [] [] rfl (by decide)
example : interp env1 false 4 [36, 120] = .error .expectedLBrace :=
  malformed_fails env1 false 3 [36, 120] .expectedLBrace (by decide)

end C09
end Robsd
