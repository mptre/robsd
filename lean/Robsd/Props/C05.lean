import Robsd.Model.Report
import Robsd.Lemmas.Decimal
/-
  C05: a failed step is never hidden in the report.
-/
namespace Robsd
namespace C05
open Bytes StepFile Report

/-- 111 is `o` -/
theorem ne_ok_of_head {b : Bytes} {c : UInt8} (h : b.head? = some c) (hc : c ≠ 111) : b ≠ S "ok" := by
  rintro rfl
  exact hc (Option.some.inj h).symm

theorem failureCount_eq_zero (rows : List Row) : failureCount rows = 0 ↔ ∀ r ∈ rows, rowExit r = 0 := by
  simp [failureCount, List.filter_eq_nil_iff]

theorem status_of_count {mode : Mode} (hm : mode = .regress ∨ mode = .canvas) (rows : List Row) :
    status mode rows =
      if failureCount rows > 0 then
        renderNat (failureCount rows) ++ S " failure" ++ (if failureCount rows > 1 then S "s" else [])
      else S "ok" := by
  rcases hm with rfl | rfl <;> rfl

/-- regress and canvas: the status is `ok` exactly when no recorded step has a
    non-zero exit; otherwise it is the number of failures -/
theorem status_count (mode : Mode) (hm : mode = .regress ∨ mode = .canvas) (rows : List Row) :
    (status mode rows = S "ok" ↔ ∀ r ∈ rows, rowExit r = 0) ∧
    (failureCount rows > 0 → status mode rows =
      renderNat (failureCount rows) ++ S " failure" ++ (if failureCount rows > 1 then S "s" else [])) := by
  rw [status_of_count hm, ← failureCount_eq_zero]
  refine ⟨⟨fun h => Nat.eq_zero_of_not_pos fun hp => ?_, fun h => if_neg (Nat.not_lt.mpr (Nat.le_of_eq h))⟩,
    fun hp => if_pos hp⟩
  -- left: the count is printed, and it starts with a digit
  rw [if_pos hp] at h
  cases hr : renderNat (failureCount rows) with
  | nil => exact renderNat_ne_nil _ hr
  | cons d rest =>
    have hd : isDigitB d = true := renderNat_digits (failureCount rows) d (hr ▸ List.mem_cons_self)
    exact ne_ok_of_head (c := d) (by rw [hr]; rfl) (fun e => absurd (e ▸ hd) (by decide)) h

def lastRun (rows : List Row) : Option Row := rows.reverse.find? (fun r => !rowSkipped r)

theorem status_of_lastRun {mode : Mode} (hm : mode = .robsd ∨ mode = .cross ∨ mode = .ports) (rows : List Row) :
    status mode rows =
      match lastRun rows with
      | none => S "ok"
      | some r => if rowExit r = 0 then S "ok" else S "failed in " ++ rowName r := by
  rcases hm with rfl | rfl | rfl <;> rfl

theorem lastRun_eq_some_iff {rows : List Row} {r : Row} :
    lastRun rows = some r ↔
      ∃ pre post, rows = pre ++ r :: post ∧ rowSkipped r = false ∧ ∀ x ∈ post, rowSkipped x = true := by
  rw [lastRun, List.find?_eq_some_iff_append]
  constructor
  · rintro ⟨hr, as, bs, hab, hno⟩
    refine ⟨bs.reverse, as.reverse, ?_, by simpa using hr, fun x hx => by simpa using hno x (by simpa using hx)⟩
    simpa using congrArg List.reverse hab
  · rintro ⟨pre, post, rfl, hr, hpost⟩
    exact ⟨by simp [hr], post.reverse, pre.reverse, by simp, fun x hx => by simp [hpost x (by simpa using hx)]⟩

/-- sequential modes: the status is decided by the last non-skipped step:
    `ok` iff it succeeded (or nothing ran), else it names that step -/
theorem status_seq (mode : Mode) (hm : mode = .robsd ∨ mode = .cross ∨ mode = .ports) (rows : List Row) :
    (status mode rows = S "ok" ↔ ∀ r, lastRun rows = some r → rowExit r = 0) ∧
    (∀ r, lastRun rows = some r → rowExit r ≠ 0 → status mode rows = S "failed in " ++ rowName r) := by
  rw [status_of_lastRun hm]
  cases lastRun rows with
  | none => simp
  | some r =>
    simp only [Option.some.injEq, forall_eq', ite_eq_left_iff]
    refine ⟨⟨fun h => Decidable.by_contra fun he => ?_, fun he hn => absurd he hn⟩, fun he => if_neg he⟩
    -- left: `failed in …` starts with `f`
    exact ne_ok_of_head rfl (by decide) (h he)

/-- A sequential history: every non-skipped step before the last non-skipped
    one succeeded (the orchestrator stops at the first failure; proved for the
    orchestrator model as `C03.Good`). -/
def SeqHistory (rows : List Row) : Prop :=
  ∀ pre r post, rows = pre ++ r :: post → rowSkipped r = false → (∃ x ∈ post, rowSkipped x = false) → rowExit r = 0

/-- **A failure is never hidden (sequential modes)**: for a sequential history
    the status is `ok` exactly when no non-skipped step has a non-zero exit. -/
theorem status_ok_iff_seq (mode : Mode) (hm : mode = .robsd ∨ mode = .cross ∨ mode = .ports)
    (rows : List Row) (hh : SeqHistory rows) :
    status mode rows = S "ok" ↔ ∀ r ∈ rows, rowSkipped r = false → rowExit r = 0 := by
  rw [(status_seq mode hm rows).1]
  constructor
  · intro h r hr hs
    -- a later row ran, or `r` is the last one that ran
    obtain ⟨pre, post, rfl⟩ := List.append_of_mem hr
    by_cases hl : ∃ x ∈ post, rowSkipped x = false
    · exact hh pre r post rfl hs hl
    · exact h r (lastRun_eq_some_iff.mpr ⟨pre, post, rfl, hs, fun x hx =>
        (Bool.not_eq_false _).mp fun hx' => hl ⟨x, hx, hx'⟩⟩)
  · intro h r hl
    obtain ⟨pre, post, rfl, hs, -⟩ := lastRun_eq_some_iff.mp hl
    exact h r (by simp) hs

/-- the rows that get a section -/
def kept (e : Env) (r : Row) : Bool :=
  !rowSkipped r && (rowExit r != 0 || skipStep e r == 0)

theorem skipStep_cases (e : Env) (r : Row) : skipStep e r = 0 ∨ skipStep e r = 1 ∨ skipStep e r = -1 := by
  fun_cases skipStep e r <;> decide  -- every leaf is one of the three numerals

theorem steps_cons (e : Env) (r : Row) (rs : List Row) :
    steps e (r :: rs) =
      if kept e r then (stepLog e r).bind fun body => (steps e rs).map fun rest => sectionHead r ++ body ++ rest
      else if rowSkipped r = false ∧ skipStep e r = -1 then none
      else steps e rs := by
  -- `steps` has `match` where the statement has `bind` and `map`
  have hsec : steps e (r :: rs) =
      if rowSkipped r then steps e rs
      else
        let decision : Int := if rowExit r = 0 then skipStep e r else 0
        if decision = 1 then steps e rs
        else if decision = -1 then none
        else (stepLog e r).bind fun body => (steps e rs).map fun rest => sectionHead r ++ body ++ rest := by
    rw [steps]
    cases stepLog e r <;> cases steps e rs <;> rfl
  rw [hsec]
  cases hs : rowSkipped r
  · by_cases he : rowExit r = 0
    · rcases skipStep_cases e r with h | h | h <;> simp [kept, hs, he, h]
    · simp [kept, hs, he]
  · simp [kept, hs]

theorem steps_spec {e : Env} {rows : List Row} {out : Bytes} (h : steps e rows = some out) :
    out = ((rows.filter (kept e)).map (fun r => sectionHead r ++ (stepLog e r).getD [])).flatten := by
  induction rows generalizing out with
  | nil => cases h; rfl
  | cons r rs ih =>
    rw [steps_cons] at h
    rw [List.filter_cons]
    by_cases hk : kept e r = true
    · rw [if_pos hk] at h ⊢
      obtain ⟨body, hb, h⟩ := Option.bind_eq_some_iff.mp h
      obtain ⟨rest, hr, rfl⟩ := Option.map_eq_some_iff.mp h
      rw [List.map_cons, List.flatten_cons, ← ih hr, hb, Option.getD_some, List.append_assoc]
    · rw [if_neg hk] at h ⊢
      split at h
      · cases h
      · exact ih h

/-- every non-skipped step with a non-zero exit gets a section; skipped steps never do -/
theorem failing_is_kept (e : Env) (r : Row) (hs : rowSkipped r = false) (he : rowExit r ≠ 0) : kept e r = true := by
  simp [kept, hs, he]

theorem skipped_not_kept (e : Env) (r : Row) (hs : rowSkipped r = true) : kept e r = false := by
  simp [kept, hs]

/-- the sections appear in step order (they are a filter of the rows) -/
theorem kept_in_order (e : Env) (rows : List Row) : (rows.filter (kept e)).Sublist rows :=
  List.filter_sublist

/-- the section of a step starts with its name, exit code, duration and log name -/
theorem sectionHead_shape (r : Row) :
    sectionHead r = S "\n> " ++ rowName r ++ [10] ++ S "Exit: " ++ renderExit (rowExit r) ++ [10] ++
      S "Duration: " ++ formatDurationDelta (rowDuration r) (rowDelta r) 0 ++ [10] ++ S "Log: " ++ rowLog r ++ [10] := rfl

theorem lastLinesRev_suffix (n : Nat) (rev : Bytes) : lastLinesRev n rev <:+ rev := by
  fun_induction lastLinesRev n rev with
  | case1 => exact List.suffix_refl _
  | case2 => exact List.nil_suffix
  | case3 n rev r1 r2 _ ih => exact ih.trans ((List.dropWhile_suffix _).trans (List.dropWhile_suffix _))

/-- the text shown after `Log:` is a suffix of the log … -/
theorem tail_is_suffix (n : Nat) (s : Bytes) : lastLines n s <:+ s := by
  unfold lastLines
  exact List.drop_suffix _ _

theorem lastLinesRev_head (n : Nat) (rev : Bytes) :
    lastLinesRev n rev = [] ∨ n = 0 ∨ (lastLinesRev n rev).head? = some 10 := by
  fun_induction lastLinesRev n rev with
  | case1 => exact .inr (.inl rfl)
  | case2 => exact .inl rfl  -- the start was reached
  | case3 n rev r1 r2 hne ih =>
    refine ih.imp_right fun h => .inr (h.elim ?_ id)
    -- the last group: `r2` starts with the newline that stopped `dropWhile`
    rintro rfl
    have w : r2 ≠ [] := by simpa using hne
    rw [lastLinesRev, List.head?_eq_some_head w]
    simpa using List.head_dropWhile_not (· != 10) w

/-- … that starts at the beginning of the log or right after a newline -/
theorem tail_at_line_boundary (n : Nat) (s : Bytes) :
    ∃ pre, s = pre ++ lastLines n s ∧ (pre = [] ∨ n = 0 ∨ pre.getLast? = some 10) := by
  have hhead := lastLinesRev_head n s.reverse
  obtain ⟨t, ht⟩ := lastLinesRev_suffix n s.reverse
  unfold lastLines
  generalize lastLinesRev n s.reverse = rem at ht hhead
  obtain rfl : s = rem.reverse ++ t.reverse := by simpa using (congrArg List.reverse ht).symm
  refine ⟨rem.reverse, ?_, ?_⟩
  · rw [← List.length_reverse, List.drop_left]
  · rwa [List.reverse_eq_nil_iff, List.getLast?_reverse]

theorem mem_sanitize {x : UInt8} {b : Bytes} (h : x ∈ sanitize b) : x ≠ 0 ∧ x ≠ 13 := by
  obtain ⟨c, -, hc⟩ := List.mem_flatMap.mp h
  split at hc
  · exact (by decide : ∀ x ∈ S "\\x00", x ≠ 0 ∧ x ≠ 13) x hc
  · split at hc
    · exact (by decide : ∀ x ∈ S "\\r", x ≠ 0 ∧ x ≠ 13) x hc
    · rename_i h0 h13
      cases List.mem_singleton.mp hc
      exact ⟨h0, h13⟩

theorem sanitize_no_nul_cr (b : Bytes) : (0 : UInt8) ∉ sanitize b ∧ (13 : UInt8) ∉ sanitize b :=
  ⟨fun h => (mem_sanitize h).1 rfl, fun h => (mem_sanitize h).2 rfl⟩

theorem sanitize_id (b : Bytes) (h0 : (0 : UInt8) ∉ b) (h13 : (13 : UInt8) ∉ b) : sanitize b = b := by
  induction b with
  | nil => rfl
  | cons c cs ih =>
    rw [List.mem_cons, not_or] at h0 h13
    rw [sanitize, List.flatMap_cons, if_neg (Ne.symm h0.1), if_neg (Ne.symm h13.1), ← sanitize, ih h0.2 h13.2]
    rfl

theorem sanitize_append (a b : Bytes) : sanitize (a ++ b) = sanitize a ++ sanitize b := by
  simp [sanitize, List.flatMap_append]

/-- the whole report: subject, stats, comment, then exactly the sections above, sanitised -/
theorem generate_shape (e : Env) (rows : List Row) (out : Bytes) (h : generate e rows = some out) :
    ∃ subj, subject e rows = some subj ∧
      out = sanitize (subj ++ stats e rows ++ commentPart e ++
        ((rows.filter (kept e)).map (fun r => sectionHead r ++ (stepLog e r).getD [])).flatten) := by
  revert h
  fun_cases generate e rows
  case case3 subj hsubj st hst => rintro ⟨⟩; exact ⟨subj, hsubj, by rw [← steps_spec hst]⟩
  all_goals nofun  -- no subject, or a section fails

/-! ### non-vacuity: a concrete history (env ok, kernel fails with exit 2, a skipped step behind it) -/
private def exRows : List Row :=
  ((parseFile (S "step,name,exit,duration,delta,log,user,time,skip\n1,env,0,1,0,env.log,root,1,0\n2,kernel,2,9,0,kernel.log,root,2,0\n3,reboot,0,0,0,,root,3,1\n")).getD [])
private def exEnv : Env :=
  { mode := .robsd, hostname := S "h", canvasName := [], machine := S "amd64", target := none, builddir := S "/b",
    logs := fun n => if n = S "kernel.log" then some (S "one\ntwo\n") else none, comment := none, tags := none,
    cvsLogs := [], packagesDiff := none, suites := [], quiet := [], sizes := [], hasPrev := false }
private theorem exRows_eq : exRows =
    [[.int 1, .str (S "env"), .int 0, .int 1, .int 0, .str (S "env.log"), .str (S "root"), .int 1, .int 0],
     [.int 2, .str (S "kernel"), .int 2, .int 9, .int 0, .str (S "kernel.log"), .str (S "root"), .int 2, .int 0],
     [.int 3, .str (S "reboot"), .int 0, .int 0, .int 0, .str [], .str (S "root"), .int 3, .int 1]] := by
  rw [exRows, S, String.toList_ofList]  -- see `Conf.S_ofList`
  decide +kernel
example : exRows.length = 3 := by rw [exRows_eq]; rfl
example : status .robsd exRows = S "failed in kernel" := by rw [exRows_eq]; decide +kernel
example : status .canvas exRows = S "1 failure" := by rw [exRows_eq]; decide +kernel
example : exRows.filter (kept exEnv) = [exRows[1]!] := by rw [exRows_eq]; decide +kernel
example : status .robsd (exRows.take 1) = S "ok" := by rw [exRows_eq]; decide +kernel
example : (generate exEnv exRows).isSome = true := by rw [exRows_eq]; decide +kernel

end C05
end Robsd
