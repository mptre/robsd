import Robsd.Model.Report
/-
  C18: report durations, deltas and size changes are computed and formatted correctly.
-/
namespace Robsd
namespace C18
open Bytes StepFile Report

/-! ### the shell twins of `steps_total_duration` (util.sh / util-regress.sh) -/

/-- util.sh `duration_total`: the `while step_eval i` loop -/
def shellTotal : List Row → Int
  | [] => 0
  | r :: rs =>
    if rowSkipped r then shellTotal rs
    else if rowName r = END then shellTotal rs
    else rowDuration r + shellTotal rs

/-- util-regress.sh `regress_duration_total` -/
def shellRegressTotal (rows : List Row) : Int :=
  let t0 := match rows.head? with | some r => rowTime r | none => 0
  let t1 := match rows.getLast? with | some r => rowTime r | none => 0
  t1 - t0

def shellDurationTotal (mode : Mode) (rows : List Row) : Int :=
  match mode with
  | .regress => shellRegressTotal rows
  | _ => shellTotal rows

theorem shellTotal_eq (rows : List Row) (a : Int) :
    a + shellTotal rows =
      (rows.filter (fun r => !rowSkipped r && rowName r != END)).foldl (fun acc r => acc + rowDuration r) a := by
  induction rows generalizing a with
  | nil => exact Int.add_zero a
  | cons r rs ih =>
    rw [shellTotal, List.filter_cons]
    by_cases hs : rowSkipped r = true
    · simpa [hs] using ih a
    · by_cases hn : rowName r = END
      · simpa [hs, hn] using ih a
      · simpa [hs, hn, Int.add_assoc] using ih (a + rowDuration r)

/-- **the shell and the C computation of the total agree**, on every step file, in every mode -/
theorem shell_eq_c (mode : Mode) (rows : List Row) :
    shellDurationTotal mode rows = totalDuration mode rows := by
  cases mode
  case regress =>
    unfold shellDurationTotal shellRegressTotal totalDuration
    cases rows with
    | nil => rfl
    | cons r rs =>
      cases h : (r :: rs).getLast? with
      | none => simp at h
      | some l => rfl
  all_goals exact (Int.zero_add _).symm.trans (shellTotal_eq rows 0)

/-- The total shown is the end step's duration when an end record exists,
    otherwise the computed total; the delta threshold is the generated constant. -/
theorem total_def (e : Env) (rows : List Row) :
    statsDuration e rows =
      match rows.find? (fun r => rowName r == END && r.getD nameIdx .unknown != .unknown) with
      | some endRow => formatDurationDelta (rowDuration endRow) (rowDelta endRow) Gen.reportDurationThreshold
      | none => formatDurationDelta (totalDuration e.mode rows) 0 Gen.reportDurationThreshold := rfl

theorem toInt32_of_int {x : Int} (h1 : -2147483648 ≤ x) (h2 : x < 2147483648) : toInt32 x = x := by
  simp only [toInt32]
  omega

theorem fmt02_toInt32 {k : Nat} (h : k < 2147483648) : fmt02 (toInt32 k) = pad2 k := by
  have : ¬ (k : Int) < 0 := by omega
  simp only [toInt32_of_int (x := k) (by omega) (by omega), fmt02, this, if_false, Int.toNat_natCast]

theorem minutes_seconds_lt (n : Nat) : n % 3600 / 60 < 60 ∧ n % 3600 % 60 < 60 :=
  ⟨Nat.div_lt_of_lt_mul (Nat.mod_lt n (by decide)), Nat.mod_lt _ (by decide)⟩

/-- in natural numbers C's truncating division is the ordinary one -/
theorem formatDuration_natCast (n : Nat) (h : n / 3600 < 2147483648) :
    formatDuration n = pad2 (n / 3600) ++ [58] ++ pad2 (n % 3600 / 60) ++ [58] ++ pad2 (n % 3600 % 60) := by
  have ⟨hm, hs⟩ := minutes_seconds_lt n
  have e1 : Int.tdiv n 3600 = (n / 3600 : Nat) := (Int.ofNat_tdiv n 3600).symm
  have e2 : Int.tmod n 3600 = (n % 3600 : Nat) := (Int.ofNat_tmod n 3600).symm
  have e3 : Int.tdiv (n % 3600 : Nat) 60 = (n % 3600 / 60 : Nat) := (Int.ofNat_tdiv _ 60).symm
  have e4 : Int.tmod (n % 3600 : Nat) 60 = (n % 3600 % 60 : Nat) := (Int.ofNat_tmod _ 60).symm
  simp only [formatDuration, e1, e2, e3, e4]
  rw [fmt02_toInt32 h, fmt02_toInt32 (Nat.lt_trans hm (by decide)), fmt02_toInt32 (Nat.lt_trans hs (by decide))]

/-- **Duration round trip**: for `0 ≤ d < 2^40` the text is `HH:MM:SS` with
    minutes and seconds below 60, and the three numbers recombine to `d`. -/
theorem format_duration_roundtrip (d : Int) (h0 : 0 ≤ d) (h1 : d < 1099511627776) :
    ∃ h m s : Nat, (d = 3600 * h + 60 * m + s) ∧ m < 60 ∧ s < 60 ∧
      formatDuration d = pad2 h ++ [58] ++ pad2 m ++ [58] ++ pad2 s := by
  obtain ⟨n, rfl⟩ := Int.eq_ofNat_of_zero_le h0
  have ⟨hm, hs⟩ := minutes_seconds_lt n
  exact ⟨n / 3600, n % 3600 / 60, n % 3600 % 60, by omega, hm, hs,
    formatDuration_natCast n (Nat.div_lt_of_lt_mul (by omega))⟩

/-! ### the delta is shown exactly when it exceeds the threshold -/

/-- `format_duration_and_delta` tests `delta == 0` first; for `thr ≥ 0` that is a case of `|delta| ≤ thr` -/
theorem formatDurationDelta_eq (d delta thr : Int) (hthr : 0 ≤ thr) :
    formatDurationDelta d delta thr =
      if (if delta < 0 then -delta else delta) ≤ thr then formatDuration d
      else formatDuration d ++ S " (" ++ [if delta < 0 then 45 else 43] ++
          formatDuration (if delta < 0 then -delta else delta) ++ S ")" := by
  unfold formatDurationDelta
  by_cases h0 : delta = 0
  · simp [h0, hthr]
  · simp only [h0, if_false]

theorem delta_shown_iff (d delta thr : Int) (hthr : 0 ≤ thr) :
    ((if delta < 0 then -delta else delta) ≤ thr → formatDurationDelta d delta thr = formatDuration d) ∧
    ((if delta < 0 then -delta else delta) > thr →
      formatDurationDelta d delta thr =
        formatDuration d ++ S " (" ++ [if delta < 0 then 45 else 43] ++
          formatDuration (if delta < 0 then -delta else delta) ++ S ")") := by
  rw [formatDurationDelta_eq d delta thr hthr]
  exact ⟨fun h => if_pos h, fun h => if_neg (Int.not_le.mpr h)⟩

/-- total: 60 seconds; a single step: any non-zero delta -/
theorem thresholds : Gen.reportDurationThreshold = 60 := by decide

theorem step_delta_shown (d delta : Int) :
    formatDurationDelta d delta 0 = formatDuration d ↔ delta = 0 := by
  have h0 : delta = 0 ↔ (if delta < 0 then -delta else delta) ≤ 0 := by split <;> omega
  rw [formatDurationDelta_eq d delta 0 (Int.le_refl 0), h0, ite_eq_left_iff]
  refine ⟨fun h => Decidable.by_contra fun hn => ?_, fun h hn => absurd h hn⟩
  -- left: the text with the delta is longer
  have := congrArg List.length (h hn)
  simp [S] at this

/-- a size line is produced exactly when the change reaches the threshold
    (1 KiB for the ramdisk kernel, 1 MiB otherwise) -/
theorem size_listed_iff (name : Bytes) (size prev : Nat) :
    (sizeLine name size prev).isSome ↔
      (if size ≥ prev then size - prev else prev - size) ≥
        (if name = S "bsd.rd" then Gen.reportSizeThresholdRamdisk else Gen.reportSizeThreshold) := by
  unfold sizeLine
  exact Option.isSome_ite'.trans Nat.not_lt

theorem size_sign (name : Bytes) (size prev : Nat) (l : Bytes) (h : sizeLine name size prev = some l) :
    l = S "Size: " ++ name ++ S " " ++ formatSize size ++ S " (" ++ [if size < prev then 45 else 43] ++
      formatSize (if size ≥ prev then size - prev else prev - size) ++ S ")" := by
  unfold sizeLine at h
  exact (Option.some.inj (Option.ite_none_left_eq_some.mp h).2).symm

/-- `%.1f` with a power-of-two divisor: the printed tenths are the exact
    quotient rounded to the nearest tenth (ties to even), i.e. within half a
    tenth of the true value -/
def tenthsOf (size div : Nat) : Nat :=
  let q10 := size * 10 / div
  let rem2 := 2 * (size * 10 % div)
  if rem2 > div then q10 + 1 else if rem2 < div then q10 else (if q10 % 2 = 0 then q10 else q10 + 1)

theorem tenthsOf_cases (size div : Nat) :
    tenthsOf size div = size * 10 / div ∧ 2 * (size * 10 % div) ≤ div ∨
    tenthsOf size div = size * 10 / div + 1 ∧ div ≤ 2 * (size * 10 % div) := by
  simp only [tenthsOf]
  split
  · rename_i hgt
    exact .inr ⟨rfl, Nat.le_of_lt hgt⟩
  · rename_i hgt
    split
    · rename_i hlt
      exact .inl ⟨rfl, Nat.le_of_lt hlt⟩
    · rename_i hlt
      -- a tie, rounded to even
      have h : 2 * (size * 10 % div) = div := Nat.le_antisymm (Nat.le_of_not_gt hgt) (Nat.le_of_not_lt hlt)
      split
      · exact .inl ⟨rfl, Nat.le_of_eq h⟩
      · exact .inr ⟨rfl, Nat.le_of_eq h.symm⟩

theorem tenths_nearest (size div : Nat) (hd : 0 < div) :
    2 * (size * 10) ≤ 2 * (tenthsOf size div * div) + div ∧ 2 * (tenthsOf size div * div) ≤ 2 * (size * 10) + div := by
  have hq := Nat.div_add_mod' (size * 10) div
  have hr := Nat.mod_lt (size * 10) hd
  rcases tenthsOf_cases size div with ⟨e, h⟩ | ⟨e, h⟩ <;> rw [e]
  · omega
  · rw [Nat.add_mul]; omega

theorem size_format (size : Nat) :
    formatSize size =
      (let p : Nat × Bytes := if size ≥ 1048576 then (1048576, S "M") else if size ≥ 1024 then (1024, S "K") else (1, [])
       renderNat (tenthsOf size p.1 / 10) ++ [46] ++ renderNat (tenthsOf size p.1 % 10) ++ p.2) := rfl

/-- see `Conf.S_ofList` -/
private theorem S_ofList (l : List Char) : S (String.ofList l) = l.map (fun c => UInt8.ofNat c.toNat) := by
  rw [S, String.toList_ofList]

example : formatDuration 3661 = S "01:01:01" := by rw [S_ofList]; decide +kernel
example : formatDurationDelta 7322 (-61) 60 = S "02:02:02 (-00:01:01)" := by rw [S_ofList]; decide +kernel
example : formatDurationDelta 7322 60 60 = S "02:02:02" := by rw [S_ofList]; decide +kernel
example : formatSize 1587 = S "1.5K" ∧ formatSize 1638400 = S "1.6M" ∧ formatSize 1023 = S "1023.0" := by
  repeat rw [S_ofList]
  decide +kernel

end C18
end Robsd
