import Robsd.Lemmas.StepWrite
/-
  C01: step file writes round-trip.
-/
namespace Robsd
namespace C01
open StepFile

/-- **Round trip**: well-formed rows serialise, and the result parses back to
    the same rows, sorted by id. -/
theorem parse_serialize (rows : List Row) (h : ∀ r ∈ rows, RowOk r) :
    ∃ out, serializeFile rows = some out ∧ parseFile out = some (sortRows rows) :=
  ⟨fileOf (sortRows rows),
    (serializeFile_iff fun r hr => (h r hr).draft).mpr ⟨h, rfl⟩,
    parseFile_fileOf fun r hr => h r ((sortRows_perm _).subset hr)⟩

/-- A write command that does not exit zero (and whose flush did not fail)
    leaves the file byte-for-byte unchanged. -/
theorem reject_unchanged (file : Bytes) (id : Int) (kvs : List Bytes) :
    (writeCmd file id kvs .ok).1 ≠ 0 → (writeCmd file id kvs .ok).2 = file := by
  rcases writeCmd_cases file id kvs .ok with e | ⟨_, _, out, e, -⟩ <;> rw [e]
  · exact fun _ => rfl
  · exact fun h => absurd rfl h

/-- Exit status zero means the flush succeeded and the file holds exactly the
    serialisation of the new state — also when the file system misbehaves. -/
theorem exit0_new_state (file : Bytes) (id : Int) (kvs : List Bytes) (flush : Flush)
    (h : (writeCmd file id kvs flush).1 = 0) :
    flush = .ok ∧ ∃ rows rows' out, parseFile file = some rows ∧ applyWrite rows id kvs = some rows' ∧
      serializeFile rows' = some out ∧ writeCmd file id kvs flush = (0, out) := by
  rcases writeCmd_cases file id kvs flush with e | ⟨rows, rows', out, e, hp, ha, hs, -⟩ <;> rw [e] at h ⊢
  · cases h
  · cases flush with
    | failed l => cases h
    | ok => exact ⟨rfl, rows, rows', out, hp, ha, hs, rfl⟩

/-- A failed flush never yields exit status zero. -/
theorem flush_failure_reported (file : Bytes) (id : Int) (kvs : List Bytes) (left : Bytes) :
    (writeCmd file id kvs (.failed left)).1 ≠ 0 :=
  fun h => nomatch (exit0_new_state file id kvs (.failed left) h).1

/-- the state a file holds: it parses and every row is well formed -/
def FileOk (file : Bytes) : Prop := ∃ rows, parseFile file = some rows ∧ ∀ r ∈ rows, RowOk r

theorem write_preserves_inv (file : Bytes) (id : Int) (kvs : List Bytes) (hn : ∀ kv ∈ kvs, (0 : UInt8) ∉ kv)
    (hfok : FileOk file) : FileOk (writeCmd file id kvs .ok).2 := by
  rcases writeCmd_cases file id kvs .ok with e | ⟨rows, rows', out, e, hp, ha, hs, h1, h2⟩ <;> rw [e]
  · exact hfok
  · obtain ⟨rows0, hp0, hok⟩ := hfok
    cases hp.symm.trans hp0
    -- the id is an `int`, so it fits the 64-bit field
    have hid : InI64 id := by
      unfold intMax at h1 h2
      unfold InI64 i64Min i64Max
      omega
    -- the written row is a draft until `step_serialize` accepts it
    have hdraft := applyWrite_draft (fun r hr => (hok r hr).draft) hid hn ha
    obtain ⟨hall, rfl⟩ := (serializeFile_iff hdraft).mp hs
    have hsorted : ∀ r ∈ sortRows rows', RowOk r := fun r hr => hall r ((sortRows_perm _).subset hr)
    exact ⟨sortRows rows', parseFile_fileOf hsorted, hsorted⟩

/-- **History**: after any sequence of write commands from the empty file the
    file is readable and every row is well formed. -/
theorem history_readable (ws : List (Int × List Bytes))
    (hn : ∀ w ∈ ws, ∀ kv ∈ w.2, (0 : UInt8) ∉ kv) :
    FileOk (ws.foldl (fun file w => (writeCmd file w.1 w.2 .ok).2) []) :=
  List.foldlRecOn ws _ ⟨[], by decide, by simp⟩ fun file h w hw => write_preserves_inv file w.1 w.2 (hn w hw) h

/-- rows come out in ascending id order -/
theorem sortRows_sorted (rs : List Row) : (sortRows rs).Pairwise (fun a b => rowKey a ≤ rowKey b) := by
  rw [sortRows_eq]
  refine InsertSort.sort_pairwise (R := fun a b => rowKey a ≤ rowKey b) ?_ ?_ ?_ rs
  · exact fun _ _ h => of_decide_eq_true h
  · exact fun _ _ h => Int.le_of_lt (Int.not_le.mp (of_decide_eq_false h))
  · exact fun _ _ _ h => Int.le_trans (of_decide_eq_true h)

/-- a write touches one row only: every other row of the old state is in the new state,
    and every row of the new state is an old row or the written one -/
theorem applyWrite_frame (rows rows' : List Row) (id : Int) (kvs : List Bytes)
    (h : applyWrite rows id kvs = some rows') :
    (∀ r ∈ rows, rowId r ≠ some id → r ∈ rows') ∧
    (∃ base r', setKeyvals base kvs = some r' ∧ r' ∈ rows' ∧ ∀ x ∈ rows', x ∈ rows ∨ x = r') := by
  obtain ⟨h1, base, r', _, h2⟩ := applyWrite_spec h
  exact ⟨h1, base, r', h2⟩

-- step 1, "env", by user "r"
private def row1 : Row := [.int 1, .str [101, 110, 118], .int 0, .int 5, .int 0, .str [], .str [114], .int 17, .int 0]
private theorem row1_ok : RowOk row1 :=
  rowOk_iff.mpr ⟨⟨rfl, by decide⟩, by decide⟩
example : ∃ out, serializeFile [row1] = some out ∧ parseFile out = some [row1] :=
  parse_serialize [row1] (List.forall_mem_singleton.mpr row1_ok)

end C01
end Robsd
