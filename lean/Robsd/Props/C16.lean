import Robsd.Model.Clean
/-
  C16: cleaning keeps exactly the newest N invocations and removes nothing else.
  `listing` is what robsd-ls prints (C15: exactly the invocation directories,
  newest first, each once).
-/
namespace Robsd
namespace C16
open Bytes Clean

/-- retention 0 removes nothing -/
theorem keep0_noop (listing : List Bytes) (lock : Option Bytes) : cleaned listing lock 0 = [] := rfl

theorem cleaned_pos {listing : List Bytes} {lock : Option Bytes} {n : Nat} (hn : 0 < n) :
    cleaned listing lock n = purged listing lock n :=
  if_neg (by omega)

theorem cleaned_suffix (listing : List Bytes) (lock : Option Bytes) (n : Nat) :
    cleaned listing lock n <:+ lock.elim listing fun b => listing.filter (· != b) := by
  rw [cleaned]
  split
  · exact List.nil_suffix
  · cases lock <;> exact List.drop_suffix _ _

/-- only listed invocation directories are ever removed, and never the running one -/
theorem removed_subset (listing : List Bytes) (lock : Option Bytes) (n : Nat) :
    (∀ p ∈ cleaned listing lock n, p ∈ listing) ∧ (∀ b, lock = some b → b ∉ cleaned listing lock n) := by
  have hs := (cleaned_suffix listing lock n).subset
  constructor
  · intro p hp
    cases lock with
    | none => exact hs hp
    | some b => exact (List.mem_filter.mp (hs hp)).1
  · rintro b rfl hm
    simpa using (List.mem_filter.mp (hs hm)).2

/-- not running: exactly the newest `n` stay, the rest (the older ones) go -/
theorem not_running (listing : List Bytes) (n : Nat) (hn : 0 < n) :
    cleaned listing none n = listing.drop n ∧
    listing = listing.take n ++ cleaned listing none n := by
  rw [cleaned_pos hn]
  exact ⟨rfl, (List.take_append_drop n listing).symm⟩

/-- running: the running invocation stays, plus the newest `n-1` others -/
theorem running (listing : List Bytes) (b : Bytes) (n : Nat) (hn : 0 < n) :
    cleaned listing (some b) n = (listing.filter (· != b)).drop (n - 1) ∧
    listing.filter (· != b) = (listing.filter (· != b)).take (n - 1) ++ cleaned listing (some b) n := by
  rw [cleaned_pos hn]
  exact ⟨rfl, (List.take_append_drop _ _).symm⟩

/-- without `hlock`: a lock that names no listed directory filters nothing out, and `listing.length - (n - 1)` go -/
theorem cleaned_length (listing : List Bytes) (hnd : listing.Nodup) (lock : Option Bytes) (n : Nat) (hn : 0 < n)
    (hlock : ∀ b, lock = some b → b ∈ listing) :
    (cleaned listing lock n).length = listing.length - n := by
  rw [cleaned_pos hn]
  cases lock with
  | none => exact List.length_drop
  | some b =>
    rw [purged, List.length_drop, ← hnd.erase_eq_filter b, List.length_erase_of_mem (hlock b rfl)]
    exact Nat.sub_sub_sub_cancel_right hn

/-- the number kept is `n`, or everything when there are no more than `n` -/
theorem kept_count (listing : List Bytes) (hnd : listing.Nodup) (lock : Option Bytes) (n : Nat) (hn : 0 < n)
    (hlock : ∀ b, lock = some b → b ∈ listing) :
    (listing.length - (cleaned listing lock n).length) = min n listing.length := by
  rw [cleaned_length listing hnd lock n hn hlock, Nat.sub_sub_eq_min, Nat.min_comm]

/-- the removed ones are the oldest: everything kept sorts before (is newer
    than) everything removed among the non-running invocations -/
theorem removed_are_oldest (listing : List Bytes) (lock : Option Bytes) (n : Nat) :
    ∃ newer, (match lock with
      | some b => listing.filter (· != b)
      | none => listing) = newer ++ cleaned listing lock n ∨ n = 0 := by
  obtain ⟨newer, h⟩ := cleaned_suffix listing lock n
  refine ⟨newer, .inl ?_⟩
  cases lock <;> exact h.symm

/-- `tr '/' '-'` undoes `tr '-' '/'` -/
theorem atticName_inv (a : Bytes) (ha : SLASH ∉ a) :
    (atticName a).map (fun c => if c == SLASH then DASH else c) = a := by
  rw [atticName, List.map_map]
  refine (List.map_congr_left fun c hc => ?_).trans (List.map_id a)
  have : c ≠ SLASH := fun e => ha (e ▸ hc)
  by_cases h : c = DASH <;> simp [h, this]

/-- `YYYY-MM-DD.X` ↦ `YYYY/MM/DD.X`: distinct invocations get distinct attic names -/
theorem atticName_injective (a b : Bytes) (ha : SLASH ∉ a) (hb : SLASH ∉ b) (h : atticName a = atticName b) : a = b := by
  rw [← atticName_inv a ha, h, atticName_inv b hb]

/-- only the whitelisted files survive in the attic copy -/
theorem whitelist : preservedName [114, 101, 112, 111, 114, 116] = true ∧ preservedName [115, 116, 101, 112, 46, 99, 115, 118] = true ∧
    preservedName [115, 114, 99, 46, 100, 105, 102, 102, 46, 49] = true ∧ preservedName [48, 48, 49, 45, 101, 110, 118, 46, 108, 111, 103] = false ∧
    preservedName [114, 111, 98, 115, 100, 46, 108, 111, 103] = false := by
  -- "report", "step.csv", "src.diff.1"; "001-env.log", "robsd.log"
  decide +kernel

-- listing "5" … "1", retention 2, with "3" running and with no lock
example : cleaned [[53], [52], [51], [50], [49]] (some [51]) 2 = [[52], [50], [49]] ∧
    cleaned [[53], [52], [51], [50], [49]] none 2 = [[51], [50], [49]] := by decide +kernel

end C16
end Robsd
