import Robsd.Lemmas.Conf
/-
  C08: configuration is accepted and valued as the grammar documents.

  Model: Robsd/Model/Conf.lean; the grammar tables, the token table and the
  documented keywords are regenerated from conf*.c, conf-token.h and the *.conf.5
  manuals on every run (Gen/Grammar.lean).

  Completeness (every statement list of the value-keyword fragment is accepted,
  in any order, with every variable at its configured value or default) is
  proved at the token level in Props/C08Complete.lean and from the text (plain
  layout) in Props/C08Lex.lean; for `step` and `regress` statements with their
  option words, Props/C08Steps.lean and Props/C08Regress.lean show at the token
  level that they become the step list and the test list.  NOT proved (kept as
  the correspondence's job, see DESIGN.md): those statements from the text, the
  `env { }` option, glob keywords.
-/
namespace Robsd
namespace C08
open Conf Gen

/-- a keyword the mode's grammar has no parser for is rejected, whatever follows -/
theorem unknown_keyword_rejected (m : Mode) (env : Env) (s : St) (name : Bytes) (ts : List Tok)
    (h : findGrammarKw m name = none) : parseKeyword m env s name ts = none := by
  unfold parseKeyword; rw [h]

/-- ... and so is the whole file -/
theorem unknown_keyword_rejects_file (m : Mode) (env : Env) (s : St) (name : Bytes) (rest : List Tok) (fuel : Nat)
    (h : findGrammarKw m name = none) : parseLoop m env (fuel + 1) s (.kw name :: rest) = none := by
  simp only [parseLoop, unknown_keyword_rejected m env s name rest h]

/-- keywords of another mode are unknown keywords: e.g. `destdir` outside robsd, `regress` outside robsd-regress -/
theorem foreign_mode_keyword_rejected :
    findGrammarKw .cross (S "destdir") = none ∧ findGrammarKw .ports (S "destdir") = none ∧
    findGrammarKw .regress (S "destdir") = none ∧ findGrammarKw .canvas (S "destdir") = none ∧
    findGrammarKw .robsd (S "regress") = none ∧ findGrammarKw .canvas (S "regress") = none ∧
    findGrammarKw .robsd (S "canvas-name") = none ∧ findGrammarKw .regress (S "ports") = none ∧
    findGrammarKw .robsd (S "crossdir") = none ∧ findGrammarKw .canvas (S "kernel") = none := by
  repeat rw [S_ofList]
  decide +kernel

/-- variables that only have a default cannot be set from the file -/
theorem computed_variables_not_settable (m : Mode) :
    findGrammarKw m (S "builddir") = none ∧ findGrammarKw m (S "arch") = none ∧ findGrammarKw m (S "ncpu") = none ∧
    findGrammarKw m (S "exec-dir") = none ∧ findGrammarKw m (S "rdomain") = none := by
  repeat rw [S_ofList]
  cases m <;> decide

/-- a non-repeatable keyword given a second time is rejected -/
theorem duplicate_rejected (m : Mode) (env : Env) (s : St) (name : Bytes) (ts : List Tok) (g : GEntry)
    (hg : findGrammarKw m name = some g) (hrep : g.rep = false) (hp : present s name = true) :
    parseKeyword m env s name ts = none := by
  unfold parseKeyword; rw [hg]; simp [hrep, hp]

/-- a required keyword that never appeared makes the file rejected -/
theorem missing_required_rejected (m : Mode) (s : St) (g : GEntry) (hg : g ∈ m.grammar) (hreq : g.req = true)
    (hp : present s g.kw = false) : validate m s = false :=
  Bool.eq_false_iff.mpr fun hv => Bool.false_ne_true (hp.symm.trans ((validate_iff m s).mp hv g hg hreq))

theorem not_validated_rejected (m : Mode) (env : Env) (file : Bytes) (toks : List Tok) (err : Bool) (s : St)
    (hl : lex m file = some (toks, err)) (hp : parseLoop m env (toks.length + 1) initSt toks = some s)
    (hv : validate m s = false) : parse m env file = none := by
  unfold parse; rw [hl]; simp only [hp, hv]; simp

/-- a lexer diagnostic (integer too big, empty string) rejects the file -/
theorem lexer_error_rejected (m : Mode) (env : Env) (file : Bytes) (toks : List Tok)
    (hl : lex m file = some (toks, true)) : parse m env file = none := by
  unfold parse; rw [hl]
  simp only [Bool.true_or, if_true]
  split <;> rfl

/-- which keywords are required, per mode (read off the generated tables) -/
theorem required_keywords :
    ((Mode.robsd.grammar.filter (·.req)).map (·.kw)) = [S "destdir", S "robsddir"] ∧
    ((Mode.cross.grammar.filter (·.req)).map (·.kw)) = [S "crossdir", S "robsddir"] ∧
    ((Mode.ports.grammar.filter (·.req)).map (·.kw)) = [S "chroot", S "ports", S "ports-user", S "robsddir"] ∧
    ((Mode.regress.grammar.filter (·.req)).map (·.kw)) = [S "regress", S "robsddir"] ∧
    ((Mode.canvas.grammar.filter (·.req)).map (·.kw)) = [S "canvas-name", S "canvas-dir", S "step", S "robsddir"] := by
  repeat rw [S_ofList]
  decide +kernel

/-- what a boolean keyword accepts: exactly one token of its type (the other parsers: `Parser.run`) -/
theorem boolean_keyword (m : Mode) (env : Env) (s : St) (name : Bytes) (ts : List Tok) (g : GEntry)
    (hg : findGrammarKw m name = some g) (hfn : g.fn = S "config_parse_boolean") (hnp : (!g.rep && present s name) = false) :
    parseKeyword m env s name ts =
      (match ts with
       | .bool b :: rest => some (append s name (.int (if b then 1 else 0)), rest)
       | _ => none) :=
  parseKeyword_eq hg hnp .boolean hfn

/-- hence a value of the wrong type is rejected -/
theorem wrong_type_rejected (m : Mode) (env : Env) (s : St) (name : Bytes) (rest : List Tok) (g : GEntry) (x : Bytes) (n : Int) (b : Bool)
    (hg : findGrammarKw m name = some g) (hnp : (!g.rep && present s name) = false) :
    (g.fn = S "config_parse_boolean" → parseKeyword m env s name (.str x :: rest) = none ∧ parseKeyword m env s name (.int n :: rest) = none) ∧
    (g.fn = S "config_parse_integer" → parseKeyword m env s name (.str x :: rest) = none ∧ parseKeyword m env s name (.bool b :: rest) = none) ∧
    (g.fn = S "config_parse_string" → parseKeyword m env s name (.int n :: rest) = none ∧ parseKeyword m env s name (.bool b :: rest) = none) :=
  -- `Parser.run` on a token of another type reduces to `none`
  ⟨fun h => ⟨parseKeyword_eq hg hnp .boolean h, parseKeyword_eq hg hnp .boolean h⟩,
   fun h => ⟨parseKeyword_eq hg hnp .integer h, parseKeyword_eq hg hnp .integer h⟩,
   fun h => ⟨parseKeyword_eq hg hnp .string h, parseKeyword_eq hg hnp .string h⟩⟩

/-- which parser each keyword of the robsd mode has (read off the generated table) -/
theorem robsd_value_types :
    (Mode.robsd.grammar.filter (fun g => g.fn == S "config_parse_boolean")).map (·.kw) = [S "reboot", S "keep-attic"] ∧
    (Mode.robsd.grammar.filter (fun g => g.fn == S "config_parse_integer")).map (·.kw) = [S "keep", S "stat-interval"] ∧
    (Mode.robsd.grammar.filter (fun g => g.fn == S "config_parse_string")).map (·.kw) =
      [S "kernel", S "cvs-root", S "distrib-host", S "distrib-path", S "distrib-signify"] := by
  repeat rw [S_ofList]
  decide +kernel

/-- booleans are stored as 1/0 (see `boolean_keyword`) -/
theorem boolean_value (b : Bool) : fmtVal (.int (if b then 1 else 0)) = some (if b then [49] else [48]) := by
  cases b <;> decide

/-- lists interpolate to their members joined by single spaces -/
theorem list_value (l : List Bytes) : fmtVal (.list l) = some (joinSp l) := rfl
theorem joinSp_cons (x y : Bytes) (l : List Bytes) : joinSp (x :: y :: l) = x ++ 32 :: joinSp (y :: l) := rfl

/-- timeouts are converted to seconds; too large ones are rejected -/
theorem timeout_value (env : Env) (s : St) (n : Nat) (rest : List Tok) (u : Bytes) (g : GEntry)
    (hg : findGrammarKw .regress (S "regress-timeout") = some g) (hfn : g.fn = S "config_parse_regress_timeout")
    (hnp : (!g.rep && present s (S "regress-timeout")) = false) (k : Int)
    (hk : k = (if u = S "SECONDS" then 1 else if u = S "MINUTES" then 60 else if u = S "HOURS" then 3600 else 0)) :
    parseKeyword .regress env s (S "regress-timeout") (.int n :: .typ u :: rest) =
      (if k = 0 then none else if (intMax : Int) < k * (n : Int) then none
       else some (append s (S "regress-timeout") (.int (k * n)), rest)) := by
  rw [parseKeyword_eq hg hnp .regressTimeout hfn, hk]
  rfl

/-- one reference to `${rdomain}`: the value handed out and the next counter -/
def nextRd (c : Nat) : Nat × Nat := if c = rdomainMax then (rdomainMin, rdomainMin + 1) else (c, c + 1)

theorem find_rdomain (env : Env) (s : St) (h : s.vars.find? (fun v => v.name == S "rdomain") = none) :
    find .regress env s (S "rdomain") = (some (.int (nextRd s.rdomain).1), { s with rdomain := (nextRd s.rdomain).2 }) := by
  have hg : findGrammarInterp .regress (S "rdomain") =
      some { kw := S "rdomain", type := S "INTEGER", fn := S "NULL", req := false, rep := false, pat := false,
             fun_ := true, early := true, dflt := .fn (S "config_default_rdomain") } := by
    repeat rw [S_ofList]
    decide +kernel
  -- the default functions `find` tests for before `config_default_rdomain`
  have hne : ∀ f ∈ [S "config_default_build_dir", S "config_default_exec_dir", S "config_default_inet4", S "config_default_inet6",
      S "config_default_ncpu", S "config_default_trace", S "config_default_regress_targets", S "config_default_parallel"],
      S "config_default_rdomain" ≠ f := by
    repeat rw [S_ofList]
    decide +kernel
  -- flattened to a conjunction `¬ _ = _ ∧ …`: `simp only [hne]` below takes each conjunct as a rule `(_ = _) = False`
  simp only [List.forall_mem_cons, List.not_mem_nil, false_imp_iff, implies_true, and_true] at hne
  unfold find
  rw [h]
  simp only [hg, hne, nextRd, Bool.false_eq_true, if_false, if_true]
  split <;> rfl

/-- the counter after `k` references, starting from `c` -/
def rdAfter : Nat → Nat → Nat
  | 0, c => c
  | k + 1, c => rdAfter k (nextRd c).2

/-- the value of the `k`-th reference (from 0) -/
def rdValue (k : Nat) : Nat := (nextRd (rdAfter k rdomainMin)).1

/-- the generated `rdomainMin`, `rdomainMax` as numerals, for `omega` -/
theorem nextRd_eq (c : Nat) : nextRd c = (if c = 256 then 11 else c, if c = 256 then 12 else c + 1) := by
  by_cases h : c = 256 <;> simp [nextRd, rdomainMin, rdomainMax, h]

/-- the counter as a closed form: past `rdomainMin` it moves through the cycle 12..256
    (256 = `rdomainMax` stands for "about to wrap"; 245 = 256 - 11 values are handed out) -/
theorem rdAfter_closed : ∀ (k c : Nat), 12 ≤ c → c ≤ 256 → rdAfter k c = 12 + (c - 12 + k) % 245
  | 0, c, h1, h2 => by unfold rdAfter; omega
  | k + 1, c, h1, h2 => by
    rw [rdAfter, nextRd_eq]
    split <;> (rw [rdAfter_closed k _ (by omega) (by omega)]; omega)

/-- **successive references cycle through 11..255**: the k-th reference yields 11 + (k mod 245) -/
theorem rdomain_cycle (k : Nat) : rdValue k = 11 + k % 245 := by
  cases k with
  | zero => rfl
  | succ j =>
    rw [rdValue, rdAfter, show (nextRd rdomainMin).2 = 12 from rfl, rdAfter_closed j 12 (by omega) (by omega), nextRd_eq]
    split <;> omega

/-- every value handed out lies in 11..255 -/
theorem rdomain_range (k : Nat) : 11 ≤ rdValue k ∧ rdValue k ≤ 255 := by
  rw [rdomain_cycle]; omega

/-- two successive references never yield the same value -/
theorem rdomain_successive_distinct (k : Nat) : rdValue k ≠ rdValue (k + 1) := by
  rw [rdomain_cycle, rdomain_cycle]; omega

def settable (m : Mode) : List Bytes := (m.grammar.filter (fun g => g.fn != S "NULL")).map (·.kw)

/-- the accepted keywords the manual of that mode does not mention (R14) -/
theorem undocumented_keywords :
    (settable .robsd).filter (fun k => !doc_robsd.contains k) = [] ∧
    (settable .cross).filter (fun k => !doc_cross.contains k) = [] ∧
    (settable .ports).filter (fun k => !doc_ports.contains k) = [] ∧
    (settable .regress).filter (fun k => !doc_regress.contains k) = [S "skip"] ∧
    (settable .canvas).filter (fun k => !doc_canvas.contains k) = [S "robsddir"] := by
  repeat rw [S_ofList]
  decide +kernel

/-- everything the manuals document is either a keyword with a parser or one of the option words of `regress` / `step` -/
theorem documented_are_accepted :
    doc_robsd.filter (fun k => !(settable .robsd).contains k) = [] ∧
    doc_cross.filter (fun k => !(settable .cross).contains k) = [] ∧
    doc_ports.filter (fun k => !(settable .ports).contains k) = [] ∧
    doc_regress.filter (fun k => !(settable .regress).contains k) =
      [S "env", S "no-parallel", S "obj", S "packages", S "quiet", S "root", S "targets"] ∧
    doc_canvas.filter (fun k => !(settable .canvas).contains k) = [S "command", S "parallel"] := by
  repeat rw [S_ofList]
  decide +kernel

/-- ... and those option words are tokens of exactly that mode -/
theorem option_words_are_tokens :
    ([S "env", S "no-parallel", S "obj", S "packages", S "quiet", S "root", S "targets"].all (fun w => (lookupTok .regress w).isSome && (lookupTok .robsd w).isNone)) = true ∧
    ([S "command", S "parallel"].all (fun w => (lookupTok .canvas w).isSome && (lookupTok .robsd w).isNone)) = true := by
  repeat rw [S_ofList]
  decide +kernel

set_option maxRecDepth 20000 in
example : lex .regress (S "regress \"b\" root env { \"A\" } # c\nkeep 2147483648 h") =
    some ([.kw (S "regress"), .str (S "b"), .typ (S "ROOT"), .typ (S "ENV"), .typ (S "LBRACE"), .str (S "A"), .typ (S "RBRACE"),
           .kw (S "keep"), .int 2147483648, .typ (S "HOURS"), .eof], true) := by
  repeat rw [S_ofList]
  decide +kernel

example : lex .robsd (S "kernel \"unterminated") = none := by
  repeat rw [S_ofList]
  decide +kernel
example : rdValue 0 = 11 ∧ rdValue 244 = 255 ∧ rdValue 245 = 11 ∧ rdValue 246 = 12 := by
  simp only [rdomain_cycle]; decide

end C08
end Robsd
