import Robsd.Gen.Arith
import Robsd.Lemmas.Tdiv
/-
  C20 (arithmetic part): every portable fallback `KS_*_overflow0` — translated
  from libks/arithmetic.c on every run into `Gen/Arith.lean` — reports overflow
  exactly when the mathematical result is unrepresentable, stores the exact
  result otherwise, and neither traps nor executes undefined behaviour
  (`spec` never yields `.trap`/`.ub`, so equality with `spec` says all three).

  The six macro theorems are generic in the width (`T.M` is any bound); the 15
  instantiation theorems follow for i32/i64/u32/u64/size_t.  Each macro is tests,
  each behind a guard that makes its intermediate operation defined, then overflow
  or the operation itself: `land_wrap`/`land_div` evaluate the guards,
  `checked_exact` the tail, and what is left is a statement about integers.
-/
namespace Robsd
namespace C20Arith
open CArith Gen Lemmas

/-- `a` only shows that the range is not empty: `CTy` does not say that `M` is positive -/
theorem signed_bounds {T : CTy} (hs : T.signed = true) {a : Int} (ha : T.inRange a) : T.min < 0 ∧ 0 ≤ T.max := by
  simp only [CTy.inRange, CTy.min, CTy.max, hs, if_true] at *
  omega

theorem min_unsigned {T : CTy} (hs : T.signed = false) : T.min = 0 := by simp [CTy.min, hs]

theorem wrapOrUb_of_inRange {T : CTy} {x : Int} (h : T.min ≤ x ∧ x ≤ T.max) : T.wrapOrUb x = .ok x := by
  unfold CTy.wrapOrUb
  cases hs : T.signed
  · rw [min_unsigned hs, CTy.max] at h
    simp [Int.emod_eq_of_lt h.1 (by omega : x < T.M)]
  · simp [h]

theorem div_ok (T : CTy) {x y : Int} (hy : y ≠ 0) (h : x ≠ T.min ∨ y ≠ -1) : T.div x y = .ok (x.tdiv y) := by
  unfold CTy.div
  rw [if_neg hy, if_neg (by omega)]

theorem land_ok_ok (p q : Bool) : land (.ok p) (fun _ => .ok q) = .ok (p && q) := by cases p <;> rfl
theorem lor_ok_ok (p q : Bool) : lor (.ok p) (fun _ => .ok q) = .ok (p || q) := by cases p <;> rfl

theorem land_wrap {T : CTy} {p : Bool} {x : Int} {q : Int → Bool} (h : p = true → T.min ≤ x ∧ x ≤ T.max) :
    land (.ok p) (fun _ => (T.wrapOrUb x).bind fun t => .ok (q t)) = .ok (p && q x) := by
  cases p
  · rfl
  · show (T.wrapOrUb x).bind _ = _
    rw [wrapOrUb_of_inRange (h rfl)]; rfl

theorem land_div {T : CTy} {p : Bool} {x y : Int} {q : Int → Bool} (h : p = true → y ≠ 0 ∧ (x ≠ T.min ∨ y ≠ -1)) :
    land (.ok p) (fun _ => (T.div x y).bind fun t => .ok (q t)) = .ok (p && q (x.tdiv y)) := by
  cases p
  · rfl
  · show (T.div x y).bind _ = _
    rw [div_ok T (h rfl).1 (h rfl).2]; rfl

theorem checked_exact {T : CTy} {x : Int} {c : Bool} (hc : c = true ↔ ¬ (T.min ≤ x ∧ x ≤ T.max)) :
    (if c then R.ok Out.overflow else (T.wrapOrUb x).bind fun t => R.ok (Out.value t)) = spec T x := by
  by_cases h : T.min ≤ x ∧ x ≤ T.max
  · have : c = false := by simpa [h] using hc
    rw [this, wrapOrUb_of_inRange h, spec_of_inRange h]; rfl
  · rw [hc.mpr h, spec_of_not_inRange h]; rfl

theorem signed_add_exact (T : CTy) (hs : T.signed = true) (a b : Int)
    (ha : T.inRange a) (hb : T.inRange b) :
    SIGNED_ADD_OVERFLOW T T.max T.min a b = spec T (a + b) := by
  have h0 := signed_bounds hs ha
  unfold CTy.inRange at ha hb
  unfold SIGNED_ADD_OVERFLOW CTy.sub CTy.add
  rw [land_wrap, land_wrap, lor_ok_ok, R.bind_ok]
  · apply checked_exact
    simp only [Bool.or_eq_true, Bool.and_eq_true, decide_eq_true_iff]
    omega
  -- what the two `land_wrap` ask: behind its guard on the sign of `b`, `max - b` resp. `min - b` is in range
  all_goals rw [decide_eq_true_iff]; omega

theorem signed_sub_exact (T : CTy) (hs : T.signed = true) (a b : Int)
    (ha : T.inRange a) (hb : T.inRange b) :
    SIGNED_SUB_OVERFLOW T T.max T.min a b = spec T (a - b) := by
  have h0 := signed_bounds hs ha
  unfold CTy.inRange at ha hb
  unfold SIGNED_SUB_OVERFLOW CTy.sub CTy.add
  rw [land_wrap, land_wrap, lor_ok_ok, R.bind_ok]
  · apply checked_exact
    simp only [Bool.or_eq_true, Bool.and_eq_true, decide_eq_true_iff]
    omega
  -- as in `signed_add_exact`, for `min + b` and `max + b`
  all_goals rw [decide_eq_true_iff]; omega

theorem ite_or_same {α : Type} (c d : Bool) (x y : α) :
    (if c then x else if d then x else y) = if (c || d) then x else y := by cases c <;> rfl

theorem signed_mul_exact (T : CTy) (hs : T.signed = true) (a b : Int)
    (ha : T.inRange a) (_ : T.inRange b) :
    SIGNED_MUL_OVERFLOW T T.max T.min a b = spec T (a * b) := by
  have h0 := signed_bounds hs ha
  unfold SIGNED_MUL_OVERFLOW CTy.mul
  simp only [land_ok_ok]
  rw [land_div, land_div, land_div, land_div]
  · simp only [R.bind_ok]
    rw [ite_or_same, ite_or_same, ite_or_same]
    apply checked_exact
    simp only [Bool.or_eq_true, Bool.and_eq_true, decide_eq_true_iff, gt_iff_lt]
    -- the sign of `a * b` says which bound can be violated, and only the test for that bound is live
    by_cases hz : a = 0 ∨ b = 0
    · rcases hz with rfl | rfl <;>
        simp only [Int.lt_irrefl, false_and, and_false, or_false, Int.zero_mul, Int.mul_zero, false_iff,
          Decidable.not_not] <;> omega
    · rcases Int.lt_or_gt_of_ne (fun h => hz (.inl h)) with ha0 | ha0 <;>
        rcases Int.lt_or_gt_of_ne (fun h => hz (.inr h)) with hb0 | hb0 <;>
        simp only [ha0, hb0, Int.lt_asymm ha0, Int.lt_asymm hb0, and_self, true_and, false_and, or_false, false_or]
      · -- `a < 0`, `b < 0`: the fourth test, against `max`
        have := Int.mul_pos_of_neg_of_neg ha0 hb0
        rw [lt_tdiv_neg_iff h0.2 ha0, Int.mul_comm]
        omega
      · -- `a < 0 < b`: the third, against `min`
        have := Int.mul_neg_of_neg_of_pos ha0 hb0
        rw [lt_nonpos_tdiv_iff (by omega) hb0]
        omega
      · -- `b < 0 < a`: the second, against `min`
        have := Int.mul_neg_of_pos_of_neg ha0 hb0
        rw [lt_nonpos_tdiv_iff (by omega) ha0, Int.mul_comm]
        omega
      · -- `0 < a`, `0 < b`: the first, against `max`
        have := Int.mul_pos ha0 hb0
        rw [tdiv_lt_iff h0.2 hb0]
        omega
  -- the sign guards alone make each division defined, whatever the range of `b`
  all_goals simp only [Bool.and_eq_true, decide_eq_true_iff]; omega

theorem unsigned_add_exact (T : CTy) (hs : T.signed = false) (a b : Int)
    (ha : T.inRange a) (hb : T.inRange b) :
    UNSIGNED_ADD_OVERFLOW T T.max a b = spec T (a + b) := by
  have h0 := min_unsigned hs
  unfold CTy.inRange at ha hb
  unfold UNSIGNED_ADD_OVERFLOW CTy.sub CTy.add
  rw [wrapOrUb_of_inRange (by omega), R.bind_ok, R.bind_ok]
  apply checked_exact
  rw [decide_eq_true_iff]
  omega

theorem unsigned_sub_exact (T : CTy) (hs : T.signed = false) (a b : Int)
    (ha : T.inRange a) (hb : T.inRange b) :
    UNSIGNED_SUB_OVERFLOW T T.max a b = spec T (a - b) := by
  have h0 := min_unsigned hs
  unfold CTy.inRange at ha hb
  unfold UNSIGNED_SUB_OVERFLOW CTy.sub
  rw [R.bind_ok]
  apply checked_exact
  rw [decide_eq_true_iff]
  omega

theorem unsigned_mul_exact (T : CTy) (hs : T.signed = false) (a b : Int)
    (ha : T.inRange a) (hb : T.inRange b) :
    UNSIGNED_MUL_OVERFLOW T T.max a b = spec T (a * b) := by
  have h0 := min_unsigned hs
  unfold CTy.inRange at ha hb
  unfold UNSIGNED_MUL_OVERFLOW CTy.mul
  rw [land_div (by rw [decide_eq_true_iff]; omega), R.bind_ok]
  apply checked_exact
  rw [Bool.and_eq_true, decide_eq_true_iff, decide_eq_true_iff]
  by_cases hb0 : b = 0
  · subst hb0; rw [Int.mul_zero]; omega
  · have := Int.mul_nonneg (by omega : 0 ≤ a) (by omega : 0 ≤ b)
    rw [gt_iff_lt, tdiv_lt_iff (by omega) (by omega)]
    omega

theorem KS_i32_add_exact (a b : Int) (ha : i32.inRange a) (hb : i32.inRange b) :
    KS_i32_add_overflow0 a b = spec i32 (a + b) := signed_add_exact i32 rfl a b ha hb
theorem KS_i32_sub_exact (a b : Int) (ha : i32.inRange a) (hb : i32.inRange b) :
    KS_i32_sub_overflow0 a b = spec i32 (a - b) := signed_sub_exact i32 rfl a b ha hb
theorem KS_i32_mul_exact (a b : Int) (ha : i32.inRange a) (hb : i32.inRange b) :
    KS_i32_mul_overflow0 a b = spec i32 (a * b) := signed_mul_exact i32 rfl a b ha hb
theorem KS_i64_add_exact (a b : Int) (ha : i64.inRange a) (hb : i64.inRange b) :
    KS_i64_add_overflow0 a b = spec i64 (a + b) := signed_add_exact i64 rfl a b ha hb
theorem KS_i64_sub_exact (a b : Int) (ha : i64.inRange a) (hb : i64.inRange b) :
    KS_i64_sub_overflow0 a b = spec i64 (a - b) := signed_sub_exact i64 rfl a b ha hb
theorem KS_i64_mul_exact (a b : Int) (ha : i64.inRange a) (hb : i64.inRange b) :
    KS_i64_mul_overflow0 a b = spec i64 (a * b) := signed_mul_exact i64 rfl a b ha hb
theorem KS_u32_add_exact (a b : Int) (ha : u32.inRange a) (hb : u32.inRange b) :
    KS_u32_add_overflow0 a b = spec u32 (a + b) := unsigned_add_exact u32 rfl a b ha hb
theorem KS_u32_sub_exact (a b : Int) (ha : u32.inRange a) (hb : u32.inRange b) :
    KS_u32_sub_overflow0 a b = spec u32 (a - b) := unsigned_sub_exact u32 rfl a b ha hb
theorem KS_u32_mul_exact (a b : Int) (ha : u32.inRange a) (hb : u32.inRange b) :
    KS_u32_mul_overflow0 a b = spec u32 (a * b) := unsigned_mul_exact u32 rfl a b ha hb
theorem KS_u64_add_exact (a b : Int) (ha : u64.inRange a) (hb : u64.inRange b) :
    KS_u64_add_overflow0 a b = spec u64 (a + b) := unsigned_add_exact u64 rfl a b ha hb
theorem KS_u64_sub_exact (a b : Int) (ha : u64.inRange a) (hb : u64.inRange b) :
    KS_u64_sub_overflow0 a b = spec u64 (a - b) := unsigned_sub_exact u64 rfl a b ha hb
theorem KS_u64_mul_exact (a b : Int) (ha : u64.inRange a) (hb : u64.inRange b) :
    KS_u64_mul_overflow0 a b = spec u64 (a * b) := unsigned_mul_exact u64 rfl a b ha hb
theorem KS_size_add_exact (a b : Int) (ha : usize.inRange a) (hb : usize.inRange b) :
    KS_size_add_overflow0 a b = spec usize (a + b) := unsigned_add_exact usize rfl a b ha hb
theorem KS_size_sub_exact (a b : Int) (ha : usize.inRange a) (hb : usize.inRange b) :
    KS_size_sub_overflow0 a b = spec usize (a - b) := unsigned_sub_exact usize rfl a b ha hb
theorem KS_size_mul_exact (a b : Int) (ha : usize.inRange a) (hb : usize.inRange b) :
    KS_size_mul_overflow0 a b = spec usize (a * b) := unsigned_mul_exact usize rfl a b ha hb

/-- `spec` never traps and never is undefined: equality with it rules both out. -/
theorem spec_no_trap (T : CTy) (x : Int) : spec T x ≠ .trap ∧ spec T x ≠ .ub := by
  by_cases h : T.inRange x
  · simp [spec_of_inRange h]
  · simp [spec_of_not_inRange h]

/-! non-vacuity: concrete operands meet the hypotheses, both outcomes occur -/
example : i32.inRange 2147483647 ∧ i32.inRange 1 ∧
    KS_i32_add_overflow0 2147483647 1 = .ok .overflow ∧
    KS_i32_add_overflow0 2147483646 1 = .ok (.value 2147483647) := by decide +kernel
example : KS_u64_mul_overflow0 4294967296 4294967296 = .ok .overflow ∧
    KS_u64_mul_overflow0 4294967295 4294967297 = .ok (.value 18446744073709551615) := by decide +kernel

end C20Arith
end Robsd
