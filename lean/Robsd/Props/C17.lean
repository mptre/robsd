import Robsd.Model.Clean
import Robsd.Lemmas.Decimal
import Robsd.Lemmas.ListFacts
/-
  C17: new invocations and re-run steps never reuse an existing name.
-/
namespace Robsd
namespace C17
open Bytes Clean StepFile

theorem takeWhile_all {α : Type} (p : α → Bool) (l : List α) (h : ∀ x ∈ l, p x = true) : l.takeWhile p = l := by
  simpa using List.takeWhile_append_of_pos (l₂ := []) h

theorem afterLastDot_append (a : Bytes) {s : Bytes} (hs : DOT ∉ s) : afterLastDot (a ++ DOT :: s) = s := by
  have hdot : ∀ x ∈ s.reverse, (x != DOT) = true := fun x hx =>
    bne_iff_ne.mpr fun e => hs (e ▸ List.mem_reverse.mp hx)
  rw [afterLastDot, List.reverse_append, List.reverse_cons, List.append_assoc,
    (takeWhile_append_stop _ _ _ hdot (fun x hx => by cases hx; rfl)).1, List.reverse_reverse]

theorem numericKey_renderNat (m : Nat) : numericKey (renderNat m) = m := by
  rw [numericKey, takeWhile_all _ _ (renderNat_digits m), digitsVal_renderNat]

/-- **A new invocation directory never exists already**, whatever the root
    holds (gaps left by cleaning, more than nine per day, other days). -/
theorem build_id_fresh (date : Bytes) (dirs : List Bytes) : buildId date dirs ∉ dirs := by
  intro hm
  have hof : ofDay date (buildId date dirs) = true :=
    List.isPrefixOf_iff_prefix.mpr ⟨_, rfl⟩
  -- `foldl max 0 ks` is the maximum of `0 :: ks`
  have hmax : ∀ k ∈ (dirs.filter (ofDay date)).map (fun d => numericKey (afterLastDot d)), k ≤ maxSuffix date dirs :=
    fun k hk => (List.max?_eq_some_iff.mp List.max?_cons').2 k (List.mem_cons_of_mem _ hk)
  -- its own suffix is among those the maximum is taken over
  have hle : numericKey (afterLastDot (buildId date dirs)) ≤ maxSuffix date dirs :=
    hmax _ (List.mem_map_of_mem (List.mem_filter.mpr ⟨hm, hof⟩))
  have hdot : DOT ∉ renderNat (maxSuffix date dirs + 1) := renderNat_not_mem rfl
  rw [buildId, List.append_assoc, List.singleton_append, afterLastDot_append _ hdot, numericKey_renderNat] at hle
  omega

/-- the logs of a step follow the naming scheme `base, base.1, …, base.(k-1)` -/
def Scheme (base : Bytes) (k : Nat) (files : List Bytes) : Prop :=
  ∀ f, (f ∈ files ∧ base.isPrefixOf f = true) ↔
    (k > 0 ∧ f = base) ∨ ∃ i, 0 < i ∧ i < k ∧ f = base ++ [DOT] ++ renderNat i

def logName (base : Bytes) (i : Nat) : Bytes := if i = 0 then base else base ++ [DOT] ++ renderNat i

theorem logId_eq (step : Nat) (name : Bytes) (files : List Bytes) :
    logId step name files =
      logName (logBase step name) (files.filter (fun f => (logBase step name).isPrefixOf f)).length := by
  simp only [logId, logName]
  generalize (files.filter _).length = d
  cases d <;> rfl

theorem logName_inj {base : Bytes} {i j : Nat} (h : logName base i = logName base j) : i = j := by
  unfold logName at h
  -- in the two mixed cases `base` is shorter than `base.n`
  split at h <;> split at h
  · omega
  · have := congrArg List.length h; simp at this
  · have := congrArg List.length h; simp at this
  · exact renderNat_inj (List.append_cancel_left h)

theorem prefix_logName (base : Bytes) (i : Nat) : base.isPrefixOf (logName base i) = true := by
  rw [List.isPrefixOf_iff_prefix, logName]
  split
  · exact List.prefix_refl _
  · rw [List.append_assoc]
    exact List.prefix_append _ _

theorem scheme_perm {base : Bytes} {k : Nat} {files : List Bytes} (hs : Scheme base k files) (hnd : files.Nodup) :
    (files.filter (fun f => base.isPrefixOf f)).Perm ((List.range k).map (logName base)) := by
  refine (List.perm_ext_iff_of_nodup (hnd.filter _)
    (List.pairwise_map.mpr (List.nodup_range.imp fun hne e => hne (logName_inj e)))).mpr fun f => ?_
  simp only [List.mem_filter, hs f, List.mem_map, List.mem_range]
  constructor
  · rintro (⟨h, rfl⟩ | ⟨i, h0, hk, rfl⟩)
    · exact ⟨0, h, rfl⟩
    · exact ⟨i, hk, if_neg (by omega)⟩
  · rintro ⟨i, hk, rfl⟩
    by_cases hi : i = 0
    · exact .inl ⟨by omega, if_pos hi⟩
    · exact .inr ⟨i, by omega, hk, if_neg hi⟩

/-- **A re-run step gets a new log name**: if the earlier attempts are
    `base, base.1 … base.(k-1)` (each once), the next name is `base.k`
    (`base` for the first attempt), it is not an existing file, and adding it
    keeps the scheme — so earlier logs are never overwritten. -/
theorem log_id_fresh (step : Nat) (name : Bytes) (files : List Bytes) (k : Nat)
    (hs : Scheme (logBase step name) k files) (hnd : files.Nodup) :
    logId step name files = (if k = 0 then logBase step name else logBase step name ++ [DOT] ++ renderNat k) ∧
    logId step name files ∉ files := by
  have hp := scheme_perm hs hnd
  have hk := hp.length_eq
  rw [List.length_map, List.length_range] at hk
  rw [logId_eq, hk]
  refine ⟨rfl, fun hm => ?_⟩
  -- an existing file of that name would be among the first `k`
  obtain ⟨i, hi, e⟩ := List.mem_map.mp (hp.mem_iff.mp (List.mem_filter.mpr ⟨hm, prefix_logName _ k⟩))
  cases logName_inj e
  exact Nat.lt_irrefl _ (List.mem_range.mp hi)

-- day "24" beside 24.2, 24.3, 23.9: 24.4; step 1 "a/b" beside 001-a-b.log: 001-a-b.log.1
example : buildId [50, 52] [[50, 52, 46, 50], [50, 52, 46, 51], [50, 51, 46, 57]] = [50, 52, 46, 52] := by decide +kernel
example : logId 1 [97, 47, 98] [[48, 48, 49, 45, 97, 45, 98, 46, 108, 111, 103]] = [48, 48, 49, 45, 97, 45, 98, 46, 108, 111, 103, 46, 49] := by decide +kernel

end C17
end Robsd
