import Robsd.Lemmas.Orch
/-
  C04: steps run in configured order behind barriers and stop at the first failure.

  `Orch.check` is the property as an executable checker over a trace of
  start/finish/end events.  `run_accepted` shows that EVERY trace the
  orchestrator model can produce — for every schedule, skip set, ncpu ≥ 1, exit
  codes and completion timings (the oracle) — passes it.  The same checker is
  applied to traces observed from the real `canvas`.

  The proof is done once, for `Orch.runK`; `Orch.run` is `runK` with a lock that is never found dead.
-/
namespace Robsd
namespace C04
open Orch

/-- **Every trace of the loop satisfies the property**, for every schedule, skip set, ncpu ≥ 1, exit
    codes and completion timings, whenever and however often the lock is found dead.
    The invariant `hd`: the ids in play (the last synchronous step, the jobs, the steps still to come)
    are pairwise distinct, and each pass through the loop leaves a sublist of them in play. -/
theorem runK_checked (c : Cfg) (o : Oracle) (kp : Nat → Bool) (hn : 1 ≤ c.ncpu) (steps : List Step)
    (jobs : List Nat) (k : Nat) (ls : Option Nat)
    (hd : (ls.toList ++ (jobs ++ steps.map (·.id))).Nodup) (hlen : jobs.length ≤ c.ncpu) :
    check c ⟨jobs, ls, false⟩ (runK c o kp steps jobs k).1 = true := by
  have cur {ls : Option Nat} {jobs ids : List Nat} (h : (ls.toList ++ (jobs ++ ids)).Nodup) :
      (ls.toList ++ jobs).Nodup := h.sublist ((List.sublist_append_left ..).append_left _)
  -- the lock found dead: the barrier ends the trace
  have fin {ls : Option Nat} {jobs ids : List Nat} (h : (ls.toList ++ (jobs ++ ids)).Nodup) :
      check c ⟨jobs, ls, false⟩ (finishAll o jobs) = true := by
    rw [← List.append_nil (finishAll o jobs), check_barrier (cur h)]
    rfl
  -- `tail`, the rest of the trace, is accepted if the invariant holds again
  have par {s : Step} {rest : List Step} {jobs rem : List Nat} {ls : Option Nat} {tail : List Ev}
      (hd : (ls.toList ++ (jobs ++ (s :: rest).map (·.id))).Nodup) (hskip : ¬c.skip s.id = true)
      (hs : rem.Sublist jobs) (hlt : rem.length < c.ncpu)
      (htail : (ls.toList ++ (rem ++ [s.id] ++ rest.map (·.id))).Nodup → (rem ++ [s.id]).length ≤ c.ncpu →
        check c ⟨rem ++ [s.id], ls, false⟩ tail = true) :
      check c ⟨jobs, ls, false⟩
        (finishAll o (jobs.filter fun j => !rem.contains j) ++ [.start s.id false] ++ tail) = true := by
    rw [check_par hs (cur hd) hskip hlt]
    -- `s.id` moves from the steps to the jobs
    exact htail (hd.sublist (List.append_cons jobs .. ▸ ((hs.append_right _).append_right _).append_left _))
      (by rw [List.length_append]; exact hlt)
  have lt {jobs : List Nat} {k : Nat} (h : jobs.length = c.ncpu) : (remaining o k jobs).length < c.ncpu :=
    h ▸ remaining_length_lt o k (List.ne_nil_of_length_pos (by omega))
  fun_induction runK c o kp steps jobs k generalizing ls
  case case1 => rfl  -- no step left
  case case2 ih =>   -- skipped: `s.id` leaves the ids in play
    exact ih ls (hd.sublist (((List.sublist_cons_self ..).append_left _).append_left _)) hlen
  case case3 hskip hpar hfull rem gone hdead =>
    exact par hd hskip (remaining_sublist ..) (lt hfull) fun h _ => fin h
  case case4 hskip hpar hfull rem gone halive r ih =>
    exact par hd hskip (remaining_sublist ..) (lt hfull) (ih ls)
  -- queue not full: `par` with `rem = jobs`, where nothing finishes and its trace unfolds to `start :: tail`
  case case5 jobs k hskip hpar hroom hdead =>
    have := par hd hskip (.refl jobs) (Nat.lt_of_le_of_ne hlen hroom) fun h _ => fin h
    rwa [filter_not_contains_self] at this
  case case6 jobs k hskip hpar hroom halive r ih =>
    have := par hd hskip (.refl jobs) (Nat.lt_of_le_of_ne hlen hroom) (ih ls)
    rwa [filter_not_contains_self] at this
  case case7 =>  -- `end`
    rw [check_barrier (cur hd)]
    rfl
  case case9 s rest jobs k hskip hsync hnotend hzero halive r ih =>
    rw [List.append_assoc]
    -- `s.id` becomes the last synchronous step, with no job left
    exact (check_sync (cur hd) hskip hn).trans <| ih (some s.id)
      (hd.sublist ((List.sublist_append_right ..).trans (List.sublist_append_right ..))) (Nat.zero_le _)
  case case8 hskip hsync hnotend hzero hdead | case10 hskip hsync hnotend hfailed =>
    rw [check_sync (cur hd) hskip hn]
    rfl

/-- the statement for a whole invocation -/
theorem run_accepted (c : Cfg) (o : Oracle) (hn : 1 ≤ c.ncpu) (steps : List Step) (hids : (steps.map (·.id)).Nodup) :
    accepts c (run c o steps [] 0).1 = true :=
  runK_eq_run c o (fun _ => false) steps [] 0 (fun _ _ => rfl) ▸
    runK_checked c o (fun _ => false) hn steps [] 0 none (by simpa using hids) (Nat.zero_le _)

/-- the other direction: what accepting a `start` event demands -/
theorem check_start {c : Cfg} {st : ChkSt} {i : Nat} {sync : Bool} {rest : List Ev}
    (h : check c st (.start i sync :: rest) = true) :
    st.failed = false ∧ c.skip i = false ∧ (sync = true → st.running = []) ∧ st.running.length + 1 ≤ c.ncpu ∧
      check c ⟨st.running ++ [i], if sync then some i else st.lastSync, st.failed⟩ rest = true := by
  simp only [check, Bool.and_eq_true, Bool.not_eq_true', decide_eq_true_eq] at h
  obtain ⟨⟨⟨⟨hfailed, hskip⟩, hquiet⟩, hbound⟩, hrest⟩ := h
  exact ⟨hfailed, hskip, fun hs => by simpa [hs] using hquiet, hbound, hrest⟩

/-- a synchronous step is accepted only when nothing started before is still running -/
theorem check_sync_needs_quiet (c : Cfg) (st : ChkSt) (i : Nat) (rest : List Ev)
    (h : check c st (.start i true :: rest) = true) : st.running = [] ∧ st.failed = false ∧ c.skip i = false := by
  obtain ⟨hfailed, hskip, hquiet, -, -⟩ := check_start h
  exact ⟨hquiet rfl, hfailed, hskip⟩

/-- a parallel step is accepted only within the ncpu bound, and never a skipped one -/
theorem check_par_bound (c : Cfg) (st : ChkSt) (i : Nat) (rest : List Ev)
    (h : check c st (.start i false :: rest) = true) : st.running.length + 1 ≤ c.ncpu ∧ c.skip i = false ∧ st.failed = false := by
  obtain ⟨hfailed, hskip, -, hbound, -⟩ := check_start h
  exact ⟨hbound, hskip, hfailed⟩

/-- the end record is accepted only when no synchronous step failed and nothing is running -/
theorem check_end (c : Cfg) (st : ChkSt) (i : Nat) (rest : List Ev)
    (h : check c st (.endRec i :: rest) = true) : st.failed = false ∧ st.running = [] := by
  simp only [check, Bool.and_eq_true, Bool.not_eq_true', List.isEmpty_iff] at h
  exact h.1

/-- a step after which the loop carries on -/
def Continues (c : Cfg) (o : Oracle) (t : Step) : Prop :=
  c.skip t.id = true ∨ t.parallel = true ∨ (t.isEnd = false ∧ o.exit t.id = 0)

/-- a step at which the invocation fails -/
def Fails (c : Cfg) (o : Oracle) (s : Step) : Prop :=
  c.skip s.id = false ∧ s.parallel = false ∧ s.isEnd = false ∧ o.exit s.id ≠ 0

theorem not_fails_of_continues {c : Cfg} {o : Oracle} {s : Step} (hc : Continues c o s) : ¬ Fails c o s := by
  rintro ⟨f1, f2, _, f4⟩
  rcases hc with h | h | ⟨_, h⟩
  · exact absurd (f1.symm.trans h) nofun
  · exact absurd (f2.symm.trans h) nofun
  · exact f4 h

/-- the invocation fails exactly when the loop reaches a non-skipped
    synchronous step that fails (every step before it was skipped, parallel —
    whatever its exit status — or a successful synchronous one) -/
theorem run_result (c : Cfg) (o : Oracle) (steps : List Step) (jobs : List Nat) (k : Nat) :
    (run c o steps jobs k).2 = false ↔
      ∃ pre s post, steps = pre ++ s :: post ∧ Fails c o s ∧ ∀ t ∈ pre, Continues c o t := by
  -- behind a step that lets the loop continue the question is the same for the rest
  have shift {s : Step} {rest : List Step} {b : Bool} (hc : Continues c o s)
      (ih : b = false ↔ ∃ pre s post, rest = pre ++ s :: post ∧ Fails c o s ∧ ∀ t ∈ pre, Continues c o t) :
      b = false ↔ ∃ pre t post, s :: rest = pre ++ t :: post ∧ Fails c o t ∧ ∀ u ∈ pre, Continues c o u := by
    rw [exists_split_cons, ← ih]
    exact ⟨fun h => .inr ⟨hc, h⟩, fun h => h.elim (absurd · (not_fails_of_continues hc)) And.right⟩
  fun_induction run c o steps jobs k
  case case1 =>  -- no step left
    exact iff_of_false nofun fun ⟨pre, _, _, e, _⟩ => by cases pre <;> cases e
  -- skipped; parallel; synchronous with exit 0
  case case2 h ih => exact shift (.inl h) ih
  case case3 hpar hfull rem gone r ih | case4 hpar hroom r ih => exact shift (.inr (.inl hpar)) ih
  case case6 hnotend hzero r ih => exact shift (.inr (.inr ⟨Bool.eq_false_iff.mpr hnotend, hzero⟩)) ih
  -- `end` neither fails nor lets the loop continue
  case case5 hskip hpar hend =>
    rw [exists_split_cons]
    refine iff_of_false nofun ?_
    rintro (⟨_, _, f, _⟩ | ⟨h | h | ⟨h, _⟩, _⟩)
    · exact absurd (f.symm.trans hend) nofun
    · exact hskip h
    · exact hpar h
    · exact absurd (h.symm.trans hend) nofun
  case case7 hskip hsync hnotend hfailed =>
    exact iff_of_true rfl ⟨[], _, _, rfl,
      ⟨Bool.eq_false_iff.mpr hskip, Bool.eq_false_iff.mpr hsync, Bool.eq_false_iff.mpr hnotend, hfailed⟩, nofun⟩

/-- a failing parallel step never makes the invocation fail by itself -/
theorem par_failure_does_not_stop (c : Cfg) (o : Oracle) (steps : List Step)
    (h : ∀ s ∈ steps, Continues c o s ∨ s.isEnd = true) : (run c o steps [] 0).2 = true := by
  cases hr : (run c o steps [] 0).2 with
  | true => rfl
  | false =>
    obtain ⟨pre, s, post, e, hf, _⟩ := (run_result c o steps [] 0).mp hr
    rcases h s (by rw [e]; simp) with h1 | h1
    · exact absurd hf (not_fails_of_continues h1)
    · obtain ⟨-, -, hnotend, -⟩ := hf
      exact absurd (hnotend.symm.trans h1) nofun

private def c2 : Cfg := ⟨2, fun i => i == 4⟩
private def o2 : Oracle := ⟨fun i => if i == 2 then 7 else 0, fun _ j => j == 2⟩
private def steps2 : List Step := [⟨1, false, false⟩, ⟨2, true, false⟩, ⟨3, true, false⟩, ⟨4, true, false⟩, ⟨5, true, false⟩, ⟨6, false, false⟩, ⟨7, false, true⟩]
example : (run c2 o2 steps2 [] 0) =
    ([.start 1 true, .finish 1 0, .start 2 false, .start 3 false, .finish 3 0, .start 5 false,
      .finish 2 7, .finish 5 0, .start 6 true, .finish 6 0, .endRec 7], true) := by decide +kernel
example : accepts c2 (run c2 o2 steps2 [] 0).1 = true := run_accepted c2 o2 (by decide) steps2 (by decide)
/-- two parallel steps overlap (a parallel step does not wait for the others) … -/
example : accepts c2 [.start 2 false, .start 3 false, .finish 2 0, .finish 3 0] = true := by decide +kernel
/-- … but three on two cpus, a synchronous start during a parallel one, or a start after a synchronous failure are rejected -/
example : accepts c2 [.start 2 false, .start 3 false, .start 5 false] = false := by decide +kernel
example : accepts c2 [.start 2 false, .start 6 true] = false := by decide +kernel
example : accepts c2 [.start 1 true, .finish 1 1, .start 2 false] = false := by decide +kernel
example : accepts c2 [.start 4 false] = false := by decide +kernel

end C04
end Robsd
