import Robsd.Props.C08Complete
/-
  C08/C10, canvas: the `step` statements of a canvas configuration become the
  schedule, in the order written.

  `steps_tokens`: for every list of statements
      step "name" command { "a" "b" ... } [parallel]      (options in either order)
  with non-empty commands, the parser accepts the tokens and the configuration's
  step list is exactly the listed steps — name, command words, parallel flag —
  in file order (this list is what `config_get_steps` numbers and what C10's
  theorems take as their input).
-/
namespace Robsd
namespace C08
open Conf

structure StepStmt where
  name : Bytes
  command : List Bytes
  parallel : Bool
  parFirst : Bool      -- `parallel` written before `command`
deriving Repr

def tCommand : Tok := .typ (S "COMMAND")
def tParallel : Tok := .typ (S "PARALLEL")

def StepStmt.opts (st : StepStmt) : List Tok :=
  let cmd := tCommand :: lbrace :: (st.command.map Tok.str ++ [rbrace])
  if st.parallel then (if st.parFirst then tParallel :: cmd else cmd ++ [tParallel]) else cmd

def StepStmt.toks (st : StepStmt) : List Tok := .kw (S "step") :: .str st.name :: st.opts

def StepStmt.den (st : StepStmt) : CStep := ⟨st.name, st.command, st.parallel⟩

theorem canvasOptions_stop (fuel : Nat) (c : Option (List Bytes)) (p : Bool) (rest : List Tok) (h : stops rest) :
    canvasOptions (fuel + 1) c p rest = some (c, p, rest) := by
  cases rest with
  | nil => simp [stops] at h
  | cons t ts => cases t <;> simp [stops] at h <;> rfl

theorem canvasOptions_command (k : Nat) (c : Option (List Bytes)) (p : Bool) (xs : List Bytes) (tl : List Tok) :
    canvasOptions (k + 1) c p (tCommand :: lbrace :: (xs.map Tok.str ++ rbrace :: tl)) = canvasOptions k (some xs) p tl := by
  simp only [canvasOptions, tCommand, ↓reduceIte, parseList_strs]

theorem canvasOptions_parallel (k : Nat) (c : Option (List Bytes)) (p : Bool) (tl : List Tok) :
    canvasOptions (k + 1) c p (tParallel :: tl) = canvasOptions k c true tl := by
  simp only [canvasOptions, tParallel, ↓reduceIte]
  rw [if_neg (by rw [S_ofList, S_ofList]; decide : ¬ S "PARALLEL" = S "COMMAND")]

/-- with the fuel `parseKeyword` gives it -/
theorem canvasOptions_opts (st : StepStmt) (rest : List Tok) (h : stops rest) :
    canvasOptions ((st.opts ++ rest).length + 1) none false (st.opts ++ rest) = some (some st.command, st.parallel, rest) := by
  unfold StepStmt.opts
  -- `List.length_cons` turns the fuel into the successors that the `canvasOptions_*` lemmas ask for
  cases st.parallel <;> cases st.parFirst <;>
    simp only [if_true, Bool.false_eq_true, if_false, List.cons_append, List.append_assoc, List.nil_append, List.length_cons,
      canvasOptions_command, canvasOptions_parallel, canvasOptions_stop _ _ _ rest h]

theorem step_grammar : findGrammarKw .canvas (S "step") =
    some { kw := S "step", type := S "INVALID", fn := S "config_parse_canvas_step", req := true, rep := true,
           pat := false, fun_ := false, early := false, dflt := .none } := by
  repeat rw [S_ofList]
  decide +kernel

def stepEff (s : St) (st : StepStmt) : St :=
  { s with vars := if s.steps.isEmpty then s.vars ++ [⟨S "step", .invalid⟩] else s.vars, steps := s.steps ++ [st.den] }

theorem step_accepted (env : Env) (s : St) (st : StepStmt) (rest : List Tok) (hne : st.command ≠ [])
    (h : stops rest) :
    parseKeyword .canvas env s (S "step") (.str st.name :: st.opts ++ rest) = some (stepEff s st, rest) := by
  rw [parseKeyword_eq step_grammar rfl .canvasStep rfl]
  simp only [Parser.run, List.cons_append]
  rw [canvasOptions_opts st rest h]
  cases hc : st.command with
  | nil => exact absurd hc hne
  | cons a as =>
    simp only [stepEff, StepStmt.den, hc]
    split <;> rfl

theorem steps_fold (env : Env) (stmts : List StepStmt) (s : St) (fuel : Nat) (rest : List Tok) (hrest : stops rest)
    (hne : ∀ st ∈ stmts, st.command ≠ []) :
    parseLoop .canvas env fuel s (stmts.flatMap StepStmt.toks ++ rest) =
      parseLoop .canvas env (fuel - stmts.length) (stmts.foldl stepEff s) rest :=
  parseLoop_stmts .canvas env (fun _ => S "step") (fun st : StepStmt => .str st.name :: st.opts)
    stepEff (fun _ sts => ∀ st ∈ sts, st.command ≠ [])
    (fun s a as rest hinv hstop => ⟨step_accepted env s a rest (hinv a (by simp)) hstop, fun x hx => hinv x (by simp [hx])⟩)
    rest hrest stmts s fuel hne

/-- **the step statements become the schedule, in file order** -/
theorem steps_tokens (env : Env) (stmts : List StepStmt) :
    ∀ (s : St) (fuel : Nat), stmts.length < fuel → (∀ st ∈ stmts, st.command ≠ []) →
      ∃ s', parseLoop .canvas env fuel s (stmts.flatMap StepStmt.toks ++ [.eof]) = some s' ∧
        s'.steps = s.steps ++ stmts.map StepStmt.den ∧ s'.rdomain = s.rdomain ∧
        (∀ n, n ≠ S "step" → present s' n = present s n) := by
  intro s fuel hf hne
  refine ⟨_, (steps_fold env stmts s fuel [.eof] trivial hne).trans (parseLoop_eof (Nat.sub_pos_of_lt hf)), ?_⟩
  refine foldl_done_induction stmts (I := fun done s' =>
    s'.steps = s.steps ++ done.map StepStmt.den ∧ s'.rdomain = s.rdomain ∧ ∀ n, n ≠ S "step" → present s' n = present s n)
    (fun done st _ s' _ ⟨h1, h2, h3⟩ => ?_) ⟨by simp, rfl, fun _ _ => rfl⟩
  refine ⟨by simp [stepEff, h1], h2, fun n hn => ?_⟩
  rw [← h3 n hn]
  unfold stepEff
  split
  · -- the first `step` statement
    exact (present_append s' (S "step") n .invalid).trans (by rw [beq_eq_false_iff_ne.mpr hn.symm, Bool.or_false])
  · rfl

/-- `step "x" command { }` is rejected -/
theorem step_empty_command_rejected (env : Env) (s : St) (name : Bytes) (rest : List Tok) (h : stops rest) :
    parseKeyword .canvas env s (S "step") (.str name :: tCommand :: lbrace :: rbrace :: rest) = none := by
  have := canvasOptions_opts ⟨name, [], false, false⟩ rest h
  simp only [StepStmt.opts, Bool.false_eq_true, if_false, List.map_nil, List.nil_append, List.cons_append] at this
  rw [parseKeyword_eq step_grammar rfl .canvasStep rfl]
  simp only [Parser.run, this]

/-- `step "x"` without a command is rejected -/
theorem step_without_command_rejected (env : Env) (s : St) (name : Bytes) (rest : List Tok) (h : stops rest) :
    parseKeyword .canvas env s (S "step") (.str name :: rest) = none := by
  rw [parseKeyword_eq step_grammar rfl .canvasStep rfl]
  simp only [Parser.run, canvasOptions_stop rest.length none false rest h]

example : (parseLoop .canvas exEnv 9 initSt
    ((([⟨S "a", [S "true"], false, false⟩, ⟨S "b", [S "sh", S "-c", S "x y"], true, true⟩,
       ⟨S "c", [S "make"], true, false⟩] : List StepStmt).flatMap StepStmt.toks) ++ [.eof])).map (·.steps) =
    some [⟨S "a", [S "true"], false⟩, ⟨S "b", [S "sh", S "-c", S "x y"], true⟩, ⟨S "c", [S "make"], true⟩] := by
  rw [steps_fold _ _ _ _ [.eof] trivial (by decide +kernel)]
  decide +kernel

end C08
end Robsd
