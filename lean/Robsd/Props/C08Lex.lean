import Robsd.Props.C08Complete
import Robsd.Lemmas.Decimal
/-
  C08, completeness from the TEXT for the value keywords.

  `render` writes a statement list in a plain layout (`keyword value\n`, list
  members separated by single spaces).  `lex_render`: the configuration lexer
  turns that text into exactly the statements' tokens, with no lexer error;
  `complete_text`: hence `config_parse` accepts the text and every variable
  has its configured value.  Other layouts (runs of blanks, tabs, comments,
  several statements per line) are covered by `lex_skips_space` /
  `lex_skips_comment`, which say that the lexer's result does not change when
  blanks or a comment line are put in front of any token.
-/
namespace Robsd
namespace C08
open Conf Gen

/-- the lexer in the middle of a file: `lex m inp` is `lexAll m inp [] false`, and each round goes on
    with `lexAll` again (`lexAll_eq_round`) -/
def lexAll (m : Mode) (inp : Bytes) (acc : List Tok) (err : Bool) : Option (List Tok × Bool) :=
  lexFrom m (inp.length + 1) inp acc err

theorem lexAll_eq_round (m : Mode) (inp : Bytes) (acc : List Tok) (err : Bool) :
    lexAll m inp acc err = lexRound m (lexAll m) (inp.dropWhile isSpace) acc err := by
  have := (List.dropWhile_sublist isSpace (l := inp)).length_le
  rw [lexAll, lexFrom_succ]
  -- the fuel `inp.length` of the next round is enough for every shorter input
  exact lexRound_congr fun inp' acc' err' _ =>
    lexFrom_fuel_irrelevant m inp' acc' err' (by omega) (Nat.lt_succ_self _)

/-- a word byte fails the three tests a round makes before the token classes: blank, NUL, `#`
    (a digit comes here through `isWord`) -/
theorem isWord_not_blank {c : UInt8} (h : isWord c = true) : ¬ isSpace c = true ∧ c ≠ 0 ∧ c ≠ 35 := by
  simp only [isWord, isLower, isDigit, isSpace, Bool.and_eq_true, Bool.or_eq_true, decide_eq_true_eq, beq_iff_eq, ne_eq,
    UInt8.le_iff_toNat_le, ← UInt8.toNat_inj, UInt8.toNat_ofNat] at h ⊢
  omega

theorem not_isLower_of_isDigit {c : UInt8} (h : isDigit c = true) : ¬ isLower c = true := by
  simp only [isLower, isDigit, Bool.and_eq_true, decide_eq_true_eq, UInt8.le_iff_toNat_le, UInt8.toNat_ofNat] at h ⊢
  omega

theorem lexAll_nil (m : Mode) (acc : List Tok) (err : Bool) :
    lexAll m [] acc err = some ((Tok.eof :: acc).reverse, err) := rfl

/-- blanks in front of anything are skipped -/
theorem lex_skips_space (m : Mode) (c : UInt8) (rest : Bytes) (acc : List Tok) (err : Bool)
    (h : isSpace c = true) : lexAll m (c :: rest) acc err = lexAll m rest acc err := by
  rw [lexAll_eq_round, lexAll_eq_round m rest, List.dropWhile_cons_of_pos h]

/-- a comment line in front of anything is skipped -/
theorem lex_skips_comment (m : Mode) (text rest : Bytes) (acc : List Tok) (err : Bool)
    (h : ∀ x ∈ text, x ≠ 10 ∧ x ≠ 0) :
    lexAll m (35 :: text ++ 10 :: rest) acc err = lexAll m rest acc err := by
  have ht := takeWhile_append_stop (fun x => x != 10 && x != 0) text (10 :: rest)
    (fun x hx => by have := h x hx; simp [this.1, this.2]) (by simp)
  -- A round tests in this order: NUL, `#`, lower-case letter, digit, `"`; the `if_neg`s and the `if_pos`, here and
  -- in the `lexAll_*` below, answer them one by one.  `ht.2`: the `dropWhile` stops at the newline; `rfl` drops it.
  rw [List.cons_append, lexAll_eq_round, List.dropWhile_cons_of_neg (by decide), lexRound, if_neg (by decide), if_pos rfl,
    ht.2]
  rfl

/-- the lexer's `let tok := …` for a word (Model/Conf.lean, and `lexRound`), held to it by the closing `rfl` of `lexAll_word` -/
def wordTok (m : Mode) (word : Bytes) : Tok :=
  match lookupTok m word with
  | none => Tok.kw word
  | some t => if t = S "KEYWORD" then .kw word else if t = S "YES" then .bool true else if t = S "NO" then .bool false else .typ t

theorem lexAll_word (m : Mode) (c : UInt8) (w rest : Bytes) (acc : List Tok) (err : Bool)
    (hc : isLower c = true) (hw : ∀ x ∈ w, isWord x = true) (hr : ∀ x ∈ rest.head?, isWord x = false) :
    lexAll m (c :: w ++ rest) acc err = lexAll m rest (wordTok m (c :: w) :: acc) err := by
  have hcw : isWord c = true := by simp [isWord, hc]
  obtain ⟨hsp, h0, h35⟩ := isWord_not_blank hcw
  have ht := takeWhile_append_stop isWord w rest hw hr
  rw [List.cons_append, lexAll_eq_round, List.dropWhile_cons_of_neg hsp, lexRound, if_neg h0, if_neg h35, if_pos hc,
    List.takeWhile_cons_of_pos hcw, List.dropWhile_cons_of_pos hcw, ht.1, ht.2]
  rfl

theorem lexAll_int (m : Mode) (ds rest : Bytes) (acc : List Tok) (err : Bool)
    (hne : ds ≠ []) (hd : ∀ x ∈ ds, isDigit x = true) (hr : ∀ x ∈ rest.head?, isDigit x = false) :
    lexAll m (ds ++ rest) acc err =
      lexAll m rest (.int (digitsVal ds) :: acc) (err || decide (intMax < digitsVal ds)) := by
  obtain ⟨c, ds', rfl⟩ := List.exists_cons_of_ne_nil hne
  have hc := hd c List.mem_cons_self
  obtain ⟨hsp, h0, h35⟩ := isWord_not_blank (c := c) (by simp [isWord, hc])
  have ht := takeWhile_append_stop isDigit (c :: ds') rest hd hr
  rw [List.cons_append] at ht ⊢
  rw [lexAll_eq_round, List.dropWhile_cons_of_neg hsp, lexRound, if_neg h0, if_neg h35,
    if_neg (not_isLower_of_isDigit hc), if_pos hc, ht.1, ht.2]

theorem lexAll_str (m : Mode) (x rest : Bytes) (acc : List Tok) (err : Bool)
    (hx : ∀ b ∈ x, b ≠ 34 ∧ b ≠ 0) :
    lexAll m (34 :: x ++ 34 :: rest) acc err = lexAll m rest (.str x :: acc) (err || x.isEmpty) := by
  have ht := takeWhile_append_stop (fun b => b != 34 && b != 0) x (34 :: rest)
    (fun b hb => by have := hx b hb; simp [this.1, this.2]) (by simp)
  rw [List.cons_append, lexAll_eq_round, List.dropWhile_cons_of_neg (by decide), lexRound, if_neg (by decide), if_neg (by decide),
    if_neg (by decide), if_neg (by decide), if_pos rfl, ht.1, ht.2]
  rfl

/-- for `{` and `}` -/
theorem lexAll_punct (m : Mode) (c : UInt8) (rest : Bytes) (acc : List Tok) (err : Bool) {t : Bytes}
    (hc : ¬ isSpace c = true ∧ c ≠ 0 ∧ c ≠ 35 ∧ ¬ isLower c = true ∧ ¬ isDigit c = true ∧ c ≠ 34)
    (ht : lookupTok m [c] = some t) :
    lexAll m (c :: rest) acc err = lexAll m rest (.typ t :: acc) err := by
  obtain ⟨hsp, h0, h35, hlo, hdg, h34⟩ := hc
  rw [lexAll_eq_round, List.dropWhile_cons_of_neg hsp, lexRound, if_neg h0, if_neg h35, if_neg hlo, if_neg hdg, if_neg h34, ht]

def renderStr (x : Bytes) : Bytes := 34 :: x ++ [34]

def renderVal : SVal → Bytes
  | .bool b => if b then S "yes" else S "no"
  | .int n => StepFile.renderNat n
  | .str x => renderStr x
  | .user x => renderStr x
  | .dir x => renderStr x
  | .list xs => 123 :: 32 :: ((xs.flatMap fun x => renderStr x ++ [32]) ++ [125])

/-- `keyword value` and a newline -/
def render (st : Stmt) : Bytes := st.name ++ 32 :: (renderVal st.val ++ [10])

def okStr (x : Bytes) : Prop := x ≠ [] ∧ ∀ b ∈ x, b ≠ 34 ∧ b ≠ 0

/-- the keyword is a word the token table does not claim, strings are what a
    double-quoted string can hold, numbers fit an `int` -/
def Stmt.lexable (m : Mode) (st : Stmt) : Prop :=
  (∃ c w, st.name = c :: w ∧ isLower c = true ∧ (∀ x ∈ w, isWord x = true) ∧ wordTok m (c :: w) = .kw (c :: w)) ∧
  match st.val with
  | .bool _ => True
  | .int n => n ≤ intMax
  | .str x => okStr x
  | .user x => okStr x
  | .dir x => okStr x
  | .list xs => ∀ x ∈ xs, okStr x

/-- in front of anything, `text` is read as the tokens `ts` without error; composes along `++` and `flatMap` -/
def Lexes (m : Mode) (text : Bytes) (ts : List Tok) : Prop :=
  ∀ rest acc, lexAll m (text ++ rest) acc false = lexAll m rest (ts.reverse ++ acc) false

theorem Lexes.append {m : Mode} {a b : Bytes} {ta tb : List Tok} (ha : Lexes m a ta) (hb : Lexes m b tb) :
    Lexes m (a ++ b) (ta ++ tb) := fun rest acc => by
  rw [List.append_assoc, ha, hb, List.reverse_append, List.append_assoc]

theorem Lexes.flatMap {α} {m : Mode} (r : α → Bytes) (t : α → List Tok) :
    ∀ xs : List α, (∀ x ∈ xs, Lexes m (r x) (t x)) → Lexes m (xs.flatMap r) (xs.flatMap t)
  | [], _ => fun _ _ => rfl
  | x :: xs, h => by
    rw [List.flatMap_cons, List.flatMap_cons]
    exact (h x (by simp)).append (Lexes.flatMap r t xs fun y hy => h y (by simp [hy]))

theorem lexes_space (m : Mode) (c : UInt8) (h : isSpace c = true) : Lexes m [c] [] :=
  fun rest acc => lex_skips_space m c rest acc false h

theorem lexes_word (m : Mode) (c : UInt8) (w : Bytes) (d : UInt8) (hc : isLower c = true) (hw : ∀ x ∈ w, isWord x = true)
    (hd : isSpace d = true) : Lexes m (c :: w ++ [d]) [wordTok m (c :: w)] := fun rest acc => by
  have hdw : isWord d = false := Bool.eq_false_iff.mpr fun h => (isWord_not_blank h).1 hd
  rw [List.append_assoc, lexAll_word m c w _ acc false hc hw (by simpa using hdw)]
  exact lex_skips_space m d rest _ false hd

theorem lexes_str (m : Mode) (x : Bytes) (hx : okStr x) : Lexes m (renderStr x) [.str x] := fun rest acc => by
  rw [renderStr, List.append_assoc, List.singleton_append, lexAll_str m x _ acc false hx.2,
    List.isEmpty_eq_false_iff.mpr hx.1]
  rfl

theorem lexes_lbrace (m : Mode) : Lexes m [123] [lbrace] :=
  fun rest acc => lexAll_punct m 123 rest acc false (by decide) (by cases m <;> decide)

theorem lexes_rbrace (m : Mode) : Lexes m [125] [rbrace] :=
  fun rest acc => lexAll_punct m 125 rest acc false (by decide) (by cases m <;> decide)

/-- the step file reader's `digitsVal`, of which Lemmas/Decimal speaks, folds `10 * acc`, the lexer's `v * 10` -/
theorem digitsVal_eq_stepFile (ds : Bytes) : digitsVal ds = StepFile.digitsVal ds := by
  simp only [digitsVal, StepFile.digitsVal, Nat.mul_comm]

theorem lexes_nat (m : Mode) (n : Nat) (hn : n ≤ intMax) (d : UInt8) (hd : isSpace d = true) :
    Lexes m (StepFile.renderNat n ++ [d]) [.int n] := fun rest acc => by
  have hdd : isDigit d = false := Bool.eq_false_iff.mpr fun h => (isWord_not_blank (c := d) (by simp [isWord, h])).1 hd
  -- `renderNat_digits` speaks of `StepFile.isDigitB`, which is `isDigit` by `rfl`
  rw [List.append_assoc, lexAll_int m _ _ acc false (StepFile.renderNat_ne_nil n) (StepFile.renderNat_digits n) (by simpa using hdd),
    digitsVal_eq_stepFile, StepFile.digitsVal_renderNat, show decide (intMax < n) = false by simpa using hn]
  exact lex_skips_space m d rest _ false hd

theorem lexes_value (m : Mode) (st : Stmt) (hl : st.lexable m) (d : UInt8) (hd : isSpace d = true) :
    Lexes m (renderVal st.val ++ [d]) st.val.toks := by
  have hsp := lexes_space m d hd
  obtain ⟨name, v⟩ := st
  have hv := hl.2
  cases v with
  | bool b =>
    -- `S "yes"` = [121, 101, 115], `S "no"` = [110, 111]; the `assumption` in `rwa` evaluates `renderVal`
    cases b with
    | true =>
      have ht : wordTok m [121, 101, 115] = .bool true := by cases m <;> decide
      have h := lexes_word m 121 [101, 115] d (hc := by decide) (hw := by decide) hd
      rwa [ht] at h
    | false =>
      have ht : wordTok m [110, 111] = .bool false := by cases m <;> decide
      have h := lexes_word m 110 [111] d (hc := by decide) (hw := by decide) hd
      rwa [ht] at h
  | int n => exact lexes_nat m n hv d hd
  | str x | user x | dir x => exact (lexes_str m x hv).append hsp
  | list xs =>
    have h := ((lexes_lbrace m).append (lexes_space m 32 (by decide))).append
      (((Lexes.flatMap (fun x => renderStr x ++ [32]) (fun x => [Tok.str x]) xs
        fun x hx => (lexes_str m x (hv x hx)).append (lexes_space m 32 (by decide))).append
        (lexes_rbrace m)).append hsp)
    simpa [renderVal, SVal.toks, List.map_eq_flatMap] using h

theorem lexes_stmt (m : Mode) (st : Stmt) (hl : st.lexable m) : Lexes m (render st) st.toks := by
  obtain ⟨c, w, hn, hc, hw, htok⟩ := hl.1
  have h := (lexes_word m c w 32 hc hw (hd := by decide)).append (lexes_value m st hl 10 (by decide))
  rw [htok, ← hn] at h
  simpa [render, Stmt.toks] using h

/-- **the lexer reads a rendered statement list back as its tokens**, with no
    lexer diagnostic -/
theorem lex_render (m : Mode) (stmts : List Stmt) (hl : ∀ st ∈ stmts, st.lexable m) :
    lex m (stmts.flatMap render) = some (stmts.flatMap Stmt.toks ++ [.eof], false) := by
  have := Lexes.flatMap render Stmt.toks stmts (fun st hst => lexes_stmt m st (hl st hst)) [] []
  rw [List.append_nil, lexAll_nil] at this
  simpa [lex, lexAll] using this

/-- **C08 completeness from the text** (value keywords, plain layout): a
    statement list whose values have the shape the grammar gives their
    keywords, with distinct keywords in any order and every required keyword
    present, is accepted by `config_parse`, and the variables are exactly the
    configured ones. -/
theorem complete_text (m : Mode) (env : Env) (stmts : List Stmt)
    (hok : ∀ st ∈ stmts, st.ok m env) (hl : ∀ st ∈ stmts, st.lexable m)
    (hnd : (stmts.map (·.name)).Nodup)
    (hreq : ∀ g ∈ m.grammar, g.req = true → g.kw ∈ stmts.map (·.name)) :
    parse m env (stmts.flatMap render) = some { initSt with vars := varsOf stmts } :=
  parse_of_lex m env _ stmts (lex_render m stmts hl) hok hnd ((accepted_iff_required m stmts [] rdomainMin).mpr hreq)

-- `Stmt.lexable` as a Boolean, for the example only
def lexableB (m : Mode) (st : Stmt) : Bool :=
  (match st.name with
   | [] => false
   | c :: w => isLower c && w.all isWord && (wordTok m (c :: w) == .kw (c :: w))) &&
  (match st.val with
   | .bool _ => true
   | .int n => decide (n ≤ intMax)
   | .str x => x != [] && x.all (fun b => b != 34 && b != 0)
   | .user x => x != [] && x.all (fun b => b != 34 && b != 0)
   | .dir x => x != [] && x.all (fun b => b != 34 && b != 0)
   | .list xs => xs.all (fun x => x != [] && x.all (fun b => b != 34 && b != 0)))

theorem lexable_of_lexableB {m : Mode} {st : Stmt} (h : lexableB m st = true) : st.lexable m := by
  have okStr_of {x : Bytes} (h : (x != [] && x.all (fun b => b != 34 && b != 0)) = true) : okStr x := by
    simpa [okStr] using h
  obtain ⟨name, v⟩ := st
  rw [lexableB, Bool.and_eq_true] at h
  constructor
  · cases name with
    | nil => exact absurd h.1 Bool.false_ne_true
    | cons c w => exact ⟨c, w, rfl, by simpa [and_assoc] using h.1⟩
  · cases v with
    | bool b => trivial
    | int n => exact of_decide_eq_true h.2
    | str x | user x | dir x => exact okStr_of h.2
    | list xs => exact fun x hx => okStr_of (List.all_eq_true.mp h.2 x hx)

theorem exStmts_lexableB : exStmts.all (lexableB .robsd) = true := by decide +kernel

example : exStmts.all (lexableB .robsd) = true := exStmts_lexableB
example : (exStmts.flatMap render) = S "kernel \"GENERIC\"\ndestdir \"/dest\"\nreboot yes\nkeep 7\ncvs-user \"anton\"\nskip { \"cvs\" \"reboot\" }\nrobsddir \"/home/robsd\"\n" := by
  rw [S_ofList]
  decide +kernel
example : (parse .robsd exEnv (exStmts.flatMap render)).map (·.vars) = some (varsOf exStmts) := by
  rw [complete_text .robsd exEnv exStmts exStmts_ok
    (fun st hst => lexable_of_lexableB (List.all_eq_true.mp exStmts_lexableB st hst)) exStmts_nodup
    ((accepted_iff_required .robsd exStmts [] 11).mp exStmts_valid)]
  rfl

end C08
end Robsd
