import Robsd.Lemmas.Conf
import Robsd.Lemmas.ListFacts
/-
  C08, completeness at the token level for the value keywords.

  A configuration is a list of statements `keyword value` where the value has
  the shape the grammar table (regenerated from conf*.c on every run) gives the
  keyword: yes/no, a number, a string, a `{ ... }` list, the name of an existing
  user, an existing directory.  The theorems hold for every such list with
  pairwise distinct keywords, in any order.

  Not covered here: `regress`/`step` statements with their option words
  (Props/C08Regress.lean, Props/C08Steps.lean), glob keywords, `regress-timeout`
  (`timeout_value` in Props/C08.lean), and the lexer (text -> tokens;
  Props/C08Lex.lean for the plain layout).
-/
namespace Robsd
namespace C08
open Conf Gen

inductive SVal where
  | bool (b : Bool)
  | int (n : Nat)
  | str (x : Bytes)
  | list (xs : List Bytes)
  | user (x : Bytes)
  | dir (x : Bytes)
deriving Repr

structure Stmt where
  name : Bytes
  val : SVal
deriving Repr

def SVal.toks : SVal → List Tok
  | .bool b => [.bool b]
  | .int n => [.int n]
  | .str x => [.str x]
  | .user x => [.str x]
  | .dir x => [.str x]
  | .list xs => lbrace :: (xs.map Tok.str ++ [rbrace])

def Stmt.toks (st : Stmt) : List Tok := .kw st.name :: st.val.toks

/-- the value a statement gives its variable -/
def SVal.den : SVal → Val
  | .bool b => .int (if b then 1 else 0)
  | .int n => .int n
  | .str x => .str x
  | .user x => .str x
  | .dir x => .str x
  | .list xs => .list xs

/-- the statement has the shape the grammar gives its keyword -/
def Stmt.ok (m : Mode) (env : Env) (st : Stmt) : Prop :=
  ∃ g, findGrammarKw m st.name = some g ∧ g.rep = false ∧
    match st.val with
    | .bool _ => g.fn = S "config_parse_boolean"
    | .int _ => g.fn = S "config_parse_integer"
    | .str _ => g.fn = S "config_parse_string"
    | .list _ => g.fn = S "config_parse_list"
    | .user x => g.fn = S "config_parse_user" ∧ env.userExists x = true
    | .dir x => g.fn = S "config_parse_directory" ∧ x ≠ [] ∧ Interp.DOLLAR ∉ x ∧ env.isDir x = true

/-- the same as a computable check (used for the examples) -/
def Stmt.okB (m : Mode) (env : Env) (st : Stmt) : Bool :=
  match findGrammarKw m st.name with
  | none => false
  | some g => !g.rep &&
    (match st.val with
     | .bool _ => g.fn == S "config_parse_boolean"
     | .int _ => g.fn == S "config_parse_integer"
     | .str _ => g.fn == S "config_parse_string"
     | .list _ => g.fn == S "config_parse_list"
     | .user x => g.fn == S "config_parse_user" && env.userExists x
     | .dir x => g.fn == S "config_parse_directory" && x != [] && !x.contains Interp.DOLLAR && env.isDir x)

theorem ok_of_okB {m : Mode} {env : Env} {st : Stmt} (h : st.okB m env = true) : st.ok m env := by
  unfold Stmt.okB at h
  cases hg : findGrammarKw m st.name with
  | none => rw [hg] at h; cases h
  | some g =>
    rw [hg] at h
    simp only [Bool.and_eq_true, Bool.not_eq_true'] at h
    refine ⟨g, hg, h.1, ?_⟩
    cases hv : st.val <;> simpa [hv, and_assoc] using h.2

theorem stmt_accepted (m : Mode) (env : Env) (s : St) (st : Stmt) (rest : List Tok)
    (hok : st.ok m env) (hnp : present s st.name = false) :
    parseKeyword m env s st.name (st.val.toks ++ rest) = some (append s st.name st.val.den, rest) := by
  -- `g.rep = false` is not read: `hnp` alone gives `hfree`
  obtain ⟨g, hg, -, hshape⟩ := hok
  have hfree : (!g.rep && present s st.name) = false := by rw [hnp, Bool.and_false]
  cases hv : st.val <;> rw [hv] at hshape
  case bool b => exact parseKeyword_eq hg hfree .boolean hshape
  case int n => exact parseKeyword_eq hg hfree .integer hshape
  case str x => exact parseKeyword_eq hg hfree .string hshape
  case list xs =>
    rw [parseKeyword_eq hg hfree .list hshape]
    simp only [Parser.run, SVal.toks, List.cons_append, List.append_assoc, List.nil_append, parseList_strs]; rfl
  case user x =>
    rw [parseKeyword_eq hg hfree .user hshape.1]
    simp only [Parser.run, SVal.toks, List.cons_append, hshape.2, if_true]; rfl
  case dir x =>
    obtain ⟨hfn, hne, hdollar, hdir⟩ := hshape
    rw [parseKeyword_eq hg hfree .directory hfn]
    simp only [Parser.run, SVal.toks, List.cons_append, checkDir_of_lit hne hdollar hdir]; rfl

def varsOf (stmts : List Stmt) : List Var := stmts.map fun st => ⟨st.name, st.val.den⟩

/-- what ends the options: the next statement's keyword or the end of the file -/
def stops : List Tok → Prop
  | .kw _ :: _ => True
  | .eof :: _ => True
  | _ => False

/-- The one induction over the file that the value, `step` and `regress` statements share.  `inv` speaks of
    the state and the statements still to come; `stops rest` is there for `step` and `regress`, whose
    option loops read on until the next keyword or the end.  `rest` need not be the end of the file, so
    that runs of statements of different kinds chain. -/
theorem parseLoop_stmts {α : Type} (m : Mode) (env : Env) (kw : α → Bytes) (args : α → List Tok)
    (eff : St → α → St) (inv : St → List α → Prop)
    (hstep : ∀ s a as rest, inv s (a :: as) → stops rest →
      parseKeyword m env s (kw a) (args a ++ rest) = some (eff s a, rest) ∧ inv (eff s a) as)
    (rest : List Tok) (hrest : stops rest) :
    ∀ (as : List α) (s : St) (fuel : Nat), inv s as →
      parseLoop m env fuel s (as.flatMap (fun a => .kw (kw a) :: args a) ++ rest) =
        parseLoop m env (fuel - as.length) (as.foldl eff s) rest
  | [], s, fuel, _ => rfl
  | a :: as, s, 0, _ => by rw [Nat.zero_sub]; rfl  -- out of fuel on both sides
  | a :: as, s, fuel + 1, hinv => by
    have hstop : stops (as.flatMap (fun a => .kw (kw a) :: args a) ++ rest) := by
      cases as with
      | nil => exact hrest
      | cons => trivial
    obtain ⟨hacc, hinv'⟩ := hstep s a as _ hinv hstop
    rw [List.flatMap_cons, List.cons_append, List.cons_append, List.append_assoc, parseLoop, hacc, List.length_cons,
      Nat.add_sub_add_right]
    exact parseLoop_stmts m env kw args eff inv hstep rest hrest as (eff s a) fuel hinv'

/-- from any state and with any fuel: `parse_of_lex` has the lexer's token count as fuel -/
theorem complete_tokens_from (m : Mode) (env : Env) (stmts : List Stmt) (s : St) (fuel : Nat) (rest : List Tok) (hrest : stops rest)
    (hok : ∀ st ∈ stmts, st.ok m env) (hnd : (stmts.map (·.name)).Nodup) (hnp : ∀ st ∈ stmts, present s st.name = false) :
    parseLoop m env fuel s (stmts.flatMap Stmt.toks ++ rest) =
      parseLoop m env (fuel - stmts.length) { s with vars := s.vars ++ varsOf stmts } rest := by
  have hfold : ∀ (sts : List Stmt) (s : St),
      sts.foldl (fun s st => append s st.name st.val.den) s = { s with vars := s.vars ++ varsOf sts } := by
    intro sts
    induction sts with
    | nil => intro s; simp [varsOf]
    | cons st sts ih => intro s; rw [List.foldl_cons, ih]; simp [append, varsOf]
  rw [← hfold]
  refine parseLoop_stmts m env (·.name) (·.val.toks) (fun s st => append s st.name st.val.den)
    (fun s sts => (∀ st ∈ sts, st.ok m env) ∧ (sts.map (·.name)).Nodup ∧ ∀ st ∈ sts, present s st.name = false)
    ?_ rest hrest stmts s fuel ⟨hok, hnd, hnp⟩
  intro s st sts rest ⟨hok', hnd', hnp'⟩ _
  rw [List.map_cons, List.nodup_cons] at hnd'
  refine ⟨stmt_accepted m env s st rest (hok' st (by simp)) (hnp' st (by simp)), fun x hx => hok' x (by simp [hx]), hnd'.2,
    fun x hx => ?_⟩
  rw [present_append, hnp' x (by simp [hx]), Bool.false_or, beq_eq_false_iff_ne]
  exact fun e => hnd'.1 (e ▸ List.mem_map_of_mem hx)

/-- **completeness (token level)**: every list of well-shaped statements with
    distinct keywords is accepted, whatever the order, and the variables are
    exactly the statements', each with the configured value -/
theorem complete_tokens (m : Mode) (env : Env) (stmts : List Stmt) (hok : ∀ st ∈ stmts, st.ok m env)
    (hnd : (stmts.map (·.name)).Nodup) :
    parseLoop m env (stmts.length + 1) initSt (stmts.flatMap Stmt.toks ++ [.eof]) =
      some { initSt with vars := varsOf stmts } :=
  (complete_tokens_from m env stmts initSt _ [.eof] trivial hok hnd fun _ _ => rfl).trans
    (parseLoop_eof (Nat.sub_pos_of_lt (Nat.lt_succ_self _)))

/-- `config_find` (what `${name}` interpolates) of a configured keyword is the configured
    value: booleans as 1/0, lists as lists (joined by single spaces, `list_value`), strings unchanged -/
theorem value_configured (m : Mode) (env : Env) (stmts : List Stmt) (hnd : (stmts.map (·.name)).Nodup)
    (st : Stmt) (hst : st ∈ stmts) (steps : List CStep) (rd : Nat) :
    find m env ⟨varsOf stmts, steps, rd⟩ st.name = (some st.val.den, ⟨varsOf stmts, steps, rd⟩) := by
  have hf : (varsOf stmts).find? (fun v => v.name == st.name) = some ⟨st.name, st.val.den⟩ :=
    find?_eq_of_nodup_map (f := (·.name)) (by rw [List.map_map]; exact hnd) (List.mem_map_of_mem hst) fun _ => beq_iff_eq
  simp only [find, hf]

/-- a keyword that was not given has the grammar's default (the typed zero value where the table has none) -/
theorem value_default (m : Mode) (env : Env) (stmts : List Stmt) (name : Bytes) (g : GEntry)
    (hnot : ∀ st ∈ stmts, st.name ≠ name) (hg : findGrammarInterp m name = some g)
    (hreq : g.req = false) (hfun : g.fun_ = false) (steps : List CStep) (rd : Nat) :
    find m env ⟨varsOf stmts, steps, rd⟩ name = (some (typedDefault env g), ⟨varsOf stmts, steps, rd⟩) := by
  have hf : (varsOf stmts).find? (fun v => v.name == name) = none := by
    rw [List.find?_eq_none]
    intro v hv
    rcases List.mem_map.mp hv with ⟨st, hst, rfl⟩
    simpa using hnot st hst
  simp [find, hf, hg, hreq, hfun]

/-- the file passes `config_validate` iff every required keyword is given -/
theorem accepted_iff_required (m : Mode) (stmts : List Stmt) (steps : List CStep) (rd : Nat) :
    validate m ⟨varsOf stmts, steps, rd⟩ = true ↔
      ∀ g ∈ m.grammar, g.req = true → g.kw ∈ stmts.map (·.name) := by
  rw [validate_iff]
  simp only [present, varsOf, List.any_map, List.any_eq_true, List.mem_map, Function.comp_apply, beq_iff_eq]

/-- once the lexer yields the statements' tokens without a diagnostic, `config_parse` accepts a file that validates -/
theorem parse_of_lex (m : Mode) (env : Env) (file : Bytes) (stmts : List Stmt)
    (hlex : lex m file = some (stmts.flatMap Stmt.toks ++ [.eof], false))
    (hok : ∀ st ∈ stmts, st.ok m env) (hnd : (stmts.map (·.name)).Nodup)
    (hv : validate m ⟨varsOf stmts, [], rdomainMin⟩ = true) :
    parse m env file = some { initSt with vars := varsOf stmts } := by
  have hlen : stmts.length < (stmts.flatMap Stmt.toks ++ [Tok.eof]).length + 1 := by
    have := length_le_length_flatMap Stmt.toks (by simp [Stmt.toks]) stmts
    simp only [List.length_append, List.length_cons, List.length_nil]; omega
  simp only [parse, hlex, complete_tokens_from m env stmts initSt _ [.eof] trivial hok hnd fun _ _ => rfl,
    parseLoop_eof (Nat.sub_pos_of_lt hlen)]
  simp [initSt, hv]

/-! non-vacuity: a robsd configuration of the fragment, in a scrambled order -/

def exEnv : Env :=
  { isDir := fun p => p == S "/home/robsd" || p == S "/dest", userExists := fun u => u == S "anton",
    glob := fun _ => some none, arch := S "amd64", machine := S "amd64", lock := none, execDir := S "/x",
    ncpu := 4, inet := [], inet6 := [] }

def exStmts : List Stmt :=
  [⟨S "kernel", .str (S "GENERIC")⟩, ⟨S "destdir", .dir (S "/dest")⟩, ⟨S "reboot", .bool true⟩,
   ⟨S "keep", .int 7⟩, ⟨S "cvs-user", .user (S "anton")⟩, ⟨S "skip", .list [S "cvs", S "reboot"]⟩,
   ⟨S "robsddir", .dir (S "/home/robsd")⟩]

theorem exStmts_ok : ∀ st ∈ exStmts, st.ok .robsd exEnv := by
  intro st hst
  apply ok_of_okB
  revert st
  decide +kernel

theorem exStmts_nodup : (exStmts.map (·.name)).Nodup := by decide +kernel

theorem exStmts_valid : validate .robsd ⟨varsOf exStmts, [], 11⟩ = true := by decide +kernel

example : ∀ st ∈ exStmts, st.ok .robsd exEnv := exStmts_ok
example : (exStmts.map (·.name)).Nodup := exStmts_nodup
example : validate .robsd ⟨varsOf exStmts, [], 11⟩ = true := exStmts_valid
/-- the same through the lexer and the whole `config_parse` (a comment, two statements on one line) -/
example : (parse .robsd exEnv (S "kernel \"GENERIC\"\ndestdir \"/dest\" reboot yes # c\nkeep 7\ncvs-user \"anton\"\nskip { \"cvs\" \"reboot\" }\nrobsddir \"/home/robsd\"\n")).map (·.vars) =
    some (varsOf exStmts) := by
  rw [parse_of_lex .robsd exEnv _ exStmts (by rw [S_ofList]; decide +kernel) exStmts_ok exStmts_nodup exStmts_valid]
  rfl

end C08
end Robsd
