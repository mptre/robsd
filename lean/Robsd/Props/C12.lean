import Robsd.Model.RegressLog
import Robsd.Lemmas.Conf
import Robsd.Lemmas.StepWrite
/-
  C12 (partial): no input crashes, corrupts memory in or hangs the parsers.

  What a proof can carry: every model function is total and terminating on
  every byte string (they are accepted by Lean's termination checker without
  `partial`), each command exits with a documented status, and a command
  that rejects its input writes nothing to standard output.  Memory safety
  and undefined behaviour of the C text are *not* decided here; they are
  sampled with sanitizer builds by the check.
-/
namespace Robsd
namespace C12

theorem readCmd_fail_closed (file : Bytes) (sel : StepFile.Sel) (tmpl : Bytes) :
    (StepFile.readCmd file sel tmpl).1 = 0 ∨ StepFile.readCmd file sel tmpl = (1, []) := by
  unfold StepFile.readCmd
  split
  · exact .inr rfl  -- the file does not parse
  split
  · exact .inr rfl  -- no such row
  split
  · exact .inl rfl
  · exact .inr rfl  -- the template fails

/-- `robsd-step -R`: exit 0 or 1 -/
theorem step_read_exit_documented (file : Bytes) (sel : StepFile.Sel) (tmpl : Bytes) :
    (StepFile.readCmd file sel tmpl).1 = 0 ∨ (StepFile.readCmd file sel tmpl).1 = 1 :=
  (readCmd_fail_closed file sel tmpl).imp_right (congrArg Prod.fst)

/-- `robsd-step -R`: nothing on stdout unless it succeeds, for every file and template -/
theorem step_read_reject_no_stdout (file : Bytes) (sel : StepFile.Sel) (tmpl : Bytes)
    (h : (StepFile.readCmd file sel tmpl).1 ≠ 0) : (StepFile.readCmd file sel tmpl).2 = [] :=
  congrArg Prod.snd ((readCmd_fail_closed file sel tmpl).resolve_left h)

/-- `robsd-step -W`: exit 0 or 1 -/
theorem step_write_exit_documented (file : Bytes) (id : Int) (kvs : List Bytes) (fl : StepFile.Flush) :
    (StepFile.writeCmd file id kvs fl).1 = 0 ∨ (StepFile.writeCmd file id kvs fl).1 = 1 := by
  rcases StepFile.writeCmd_cases file id kvs fl with h | ⟨_, _, out, h, -⟩ <;> rw [h]
  · exact .inr rfl
  · cases fl
    · exact .inl rfl  -- the flush succeeded
    · exact .inr rfl  -- `.failed`

theorem rlog_fail_closed (sel : RegressLog.Sel) (p : Bool) (fs : List (Option Bytes)) :
    (RegressLog.main sel p fs).1 = 0 ∨ RegressLog.main sel p fs = (1, []) ∨ RegressLog.main sel p fs = (2, []) := by
  simp only [RegressLog.main]
  generalize RegressLog.mainLoop sel fs 0 [] false = r
  obtain ⟨n, bf, err⟩ := r
  -- exit 0, and output, only for `err = false` and `n > 0`
  cases err <;> cases n <;> simp

/-- `robsd-regress-log`: exit 0, 1 (nothing found) or 2 (a file could not be read) -/
theorem rlog_exit_documented (sel : RegressLog.Sel) (p : Bool) (fs : List (Option Bytes)) :
    (RegressLog.main sel p fs).1 = 0 ∨ (RegressLog.main sel p fs).1 = 1 ∨ (RegressLog.main sel p fs).1 = 2 :=
  (rlog_fail_closed sel p fs).imp_right (.imp (congrArg Prod.fst) (congrArg Prod.fst))

/-- `robsd-regress-log`: nothing on stdout unless it exits 0 -/
theorem rlog_reject_no_stdout (sel : RegressLog.Sel) (p : Bool) (fs : List (Option Bytes))
    (h : (RegressLog.main sel p fs).1 ≠ 0) : (RegressLog.main sel p fs).2 = [] :=
  ((rlog_fail_closed sel p fs).resolve_left h).elim (congrArg Prod.snd) (congrArg Prod.snd)

/-- interpolation (`robsd-config -`, `robsd-step -R`, hooks, reports): an error prints nothing -/
theorem interp_reject_no_stdout (lookup : Interp.Lookup) (ign : Bool) (tmpl : Bytes) (e : Interp.Err)
    (h : Interp.interpFile lookup ign tmpl = .error e) : Interp.cliStdout (Interp.interpFile lookup ign tmpl) = [] := by
  rw [h]; rfl

/-! ### the configuration reader (`robsd-config`, and every helper's `-C`) -/

theorem configCmd_fail_closed (m : Conf.Mode) (env : Conf.Env) (file tmpl : Bytes) :
    (Conf.configCmd m env file tmpl).1 = 0 ∨ Conf.configCmd m env file tmpl = (1, []) := by
  unfold Conf.configCmd
  split
  · exact .inr rfl  -- the configuration is rejected
  split
  · exact .inr rfl  -- the template fails
  · exact .inl rfl

/-- `robsd-config -`: exit 0 or 1, for every configuration file, template and environment -/
theorem config_exit_documented (m : Conf.Mode) (env : Conf.Env) (file tmpl : Bytes) :
    (Conf.configCmd m env file tmpl).1 = 0 ∨ (Conf.configCmd m env file tmpl).1 = 1 :=
  (configCmd_fail_closed m env file tmpl).imp_right (congrArg Prod.fst)

/-- `robsd-config -`: a rejected configuration or template prints nothing -/
theorem config_reject_no_stdout (m : Conf.Mode) (env : Conf.Env) (file tmpl : Bytes)
    (h : (Conf.configCmd m env file tmpl).1 ≠ 0) : (Conf.configCmd m env file tmpl).2 = [] :=
  congrArg Prod.snd ((configCmd_fail_closed m env file tmpl).resolve_left h)

/-- The configuration lexer consumes at least one byte per token, comment or
    stop: the fuel the model gives it (`length + 1`) is never what ends the
    scan — more fuel changes nothing.  (The C loop reads one character per
    `lexer_getc`; this is its termination argument.) -/
theorem lex_fuel_adequate (m : Conf.Mode) :
    ∀ (fuel : Nat) (inp : Bytes) (acc : List Conf.Tok) (err : Bool), inp.length < fuel →
      Conf.lexFrom m fuel inp acc err = Conf.lexFrom m (fuel + 1) inp acc err :=
  fun _ inp acc err h => Conf.lexFrom_fuel_irrelevant m inp acc err h (by omega)

/-- hence the token list of a file does not depend on the fuel at all -/
theorem lex_fuel_any (m : Conf.Mode) (inp : Bytes) (k : Nat) :
    Conf.lexFrom m (inp.length + 1 + k) inp [] false = Conf.lex m inp :=
  Conf.lexFrom_fuel_irrelevant m inp [] false (by omega) (by omega)

/-! ### non-vacuity: a reader that accepts (exit 0, output) and three ways of rejecting (exit 1, nothing) -/
private def B (s : String) : Bytes := s.toList.map (fun c => UInt8.ofNat c.toNat)
private def exFile : Bytes := B "step,name,exit,duration,delta,log,user,time,skip\n1,env,0,1,0,env.log,root,1,0\n"

private theorem exFile_parse : StepFile.parseFile exFile =
    some [[.int 1, .str (B "env"), .int 0, .int 1, .int 0, .str (B "env.log"), .str (B "root"), .int 1, .int 0]] := by
  rw [exFile, B, String.toList_ofList]  -- see `Conf.S_ofList`
  decide +kernel

example : StepFile.readCmd exFile (.idx 1) (B "${name}:${exit}\n") = (0, B "env:0\n") := by
  rw [StepFile.readCmd, exFile_parse]; decide +kernel
example : StepFile.readCmd exFile (.idx 1) (B "${nope}\n") = (1, []) := by
  rw [StepFile.readCmd, exFile_parse]; decide +kernel
example : StepFile.readCmd exFile (.idx 2) (B "${name}\n") = (1, []) := by
  rw [StepFile.readCmd, exFile_parse]; decide +kernel
example : StepFile.readCmd (B "step,name\n\x00garbage") (.idx 1) (B "${name}\n") = (1, []) := by decide +kernel

end C12
end Robsd
