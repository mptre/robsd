import Robsd.Props.C04
import Robsd.Props.C11
/-
  C04/C11 with robsd-kill in the picture: `Orch.runK` is the loop of util.sh
  `robsd()` including the `lock_alive` test at the end of the loop body.
  Without a kill it is `Orch.run` (`runK_no_kill`), so every theorem about
  `run` is a theorem about the real loop.
-/
namespace Robsd
namespace C04Kill
open Orch C04

theorem runK_no_kill (c : Cfg) (o : Oracle) :
    ∀ (steps : List Step) (jobs : List Nat) (k : Nat), runK c o (fun _ => false) steps jobs k = run c o steps jobs k :=
  fun steps jobs k => runK_eq_run c o _ steps jobs k fun _ _ => rfl

/-- **With robsd-kill in the picture every trace still satisfies the property** -/
theorem runK_accepted (c : Cfg) (o : Oracle) (kp : Nat → Bool) (hn : 1 ≤ c.ncpu) (steps : List Step)
    (hids : (steps.map (·.id)).Nodup) :
    accepts c (runK c o kp steps [] 0).1 = true :=
  runK_checked c o kp hn steps [] 0 none (by simpa using hids) (Nat.zero_le _)

/-- **robsd-kill never lets a run succeed**: a run that returns success never
    found the lock dead; it is, event for event, the undisturbed run. -/
theorem success_is_undisturbed (c : Cfg) (o : Oracle) (kp : Nat → Bool) :
    ∀ (steps : List Step) (jobs : List Nat) (k : Nat),
      (runK c o kp steps jobs k).2 = true → runK c o kp steps jobs k = run c o steps jobs k := by
  intro steps jobs k
  fun_induction runK c o kp steps jobs k
  -- the lock found dead: the result is `false`
  case case3 | case5 | case8 => exact fun h => nomatch h
  -- the loop goes on: `run` takes the same branch (`*`: its conditions, and `e`)
  case case2 ih | case4 ih | case6 ih | case9 ih =>
    intro h
    have e := ih h
    simp +zetaDelta only [run, *, Bool.false_eq_true, ↓reduceIte]
  -- no step left, `end`, synchronous failure
  case case1 | case7 | case10 =>
    intro _
    simp only [run, *, Bool.false_eq_true, ↓reduceIte]

/-- `end` is recorded only by a run that succeeded, hence never after the lock was found dead -/
theorem end_only_on_success (c : Cfg) (o : Oracle) (kp : Nat → Bool) :
    ∀ (steps : List Step) (jobs : List Nat) (k : Nat),
      (runK c o kp steps jobs k).2 = false → hasEnd (runK c o kp steps jobs k).1 = false := by
  have fin (js : List Nat) : hasEnd (finishAll o js) = false := by simp [hasEnd, finishAll]
  have app {a b : List Ev} (ha : hasEnd a = false) (hb : hasEnd b = false) : hasEnd (a ++ b) = false := by
    rw [hasEnd, List.any_append, ← hasEnd, ← hasEnd, ha, hb]; rfl
  intro steps jobs k
  fun_induction runK c o kp steps jobs k
  -- no step left, `end`: the result is `true`
  case case1 | case7 => exact nofun
  -- skipped; parallel with room in the queue, lock alive
  case case2 ih | case6 ih => exact ih
  -- parallel with the queue full, synchronous with exit 0; lock alive
  case case4 ih | case9 ih => exact fun h => app (app (fin _) rfl) (ih h)
  -- the lock found dead, or a synchronous failure: the trace ends here
  case case3 => exact fun _ => app (app (fin _) rfl) (fin _)
  case case5 => exact fun _ => fin _
  case case8 | case10 => exact fun _ => app (fin _) rfl

/-- **Nothing is left in flight, with or without robsd-kill**: when the loop
    returns, every step it started has completed (the records of a killed
    invocation are complete: the in-flight state only survives a SIGKILL of the
    orchestrator itself).  `hnd`, `hfresh` and `hids` are not used: see `C11.openAfter_runK`. -/
theorem nothing_inflight (c : Cfg) (o : Oracle) (kp : Nat → Bool) (steps : List Step) (jobs : List Nat) (k : Nat)
    (hnd : jobs.Nodup) (hfresh : ∀ s ∈ steps, s.id ∉ jobs) (hids : (steps.map (·.id)).Nodup)
    (hd : C11.Decisive c o steps) :
    C11.openAfter jobs (runK c o kp steps jobs k).1 = [] :=
  C11.openAfter_runK c o kp steps jobs k jobs (fun _ h => h) hd

/-! ### non-vacuity: three steps (1 sync, 2 parallel, 3 sync) and `end`, the lock found dead after step 2 was launched -/
private def c3 : Cfg := ⟨2, fun _ => false⟩
private def o3 : Oracle := ⟨fun _ => 0, fun _ _ => false⟩
private def s3 : List Step := [⟨1, false, false⟩, ⟨2, true, false⟩, ⟨3, false, false⟩, ⟨4, false, true⟩]
example : runK c3 o3 (fun i => i == 2) s3 [] 0 =
    ([.start 1 true, .finish 1 0, .start 2 false, .finish 2 0], false) := by decide +kernel
example : runK c3 o3 (fun _ => false) s3 [] 0 =
    ([.start 1 true, .finish 1 0, .start 2 false, .finish 2 0, .start 3 true, .finish 3 0, .endRec 4], true) := by decide +kernel
example : accepts c3 (runK c3 o3 (fun i => i == 2) s3 [] 0).1 = true := by decide +kernel

end C04Kill
end Robsd
