import Robsd.Model.Vector
import Robsd.Lemmas.InsertSort
/-
  C20 (vector and buffer part): libks/vector.c behaves as a growable array and
  libks/buffer.c as a growable byte string; capacity and reallocation are
  unobservable, growth preserves contents, the live part always lies inside the
  allocation.
-/
namespace Robsd
namespace C20Cont
open Grow

/-- `m < 2 * need`: `m` was reached by doubling a value below the need -/
theorem grow_some {need fuel n m : Nat} (h : grow need fuel n = some m) :
    need ≤ m ∧ (m = n ∨ n < need ∧ n ≤ m ∧ m < 2 * need) := by
  fun_induction grow need fuel n with
  | case1 => cases h                                    -- out of fuel
  | case2 => cases h                                    -- `goto overflow`
  | case3 fuel n hlt hroom ih => have := ih h; omega    -- doubled
  | case4 => cases h; omega                             -- `newsiz` will do

/-- `k` doublings of `n` pass `ULONG_MAX / 2`, so `k + 1` rounds are enough -/
theorem grow_isSome {need : Nat} (hneed : need ≤ maxSize / 2 + 1) {k n : Nat} (hbig : maxSize / 2 < n * 2 ^ k) :
    (grow need (k + 1) n).isSome := by
  induction k generalizing n with
  | zero => rw [grow, if_neg (by omega)]; rfl
  | succ k ih =>
    rw [grow]
    split
    · rw [if_neg (by omega)]
      exact ih (by rw [Nat.mul_assoc, ← Nat.pow_succ']; exact hbig)
    · rfl

/-- what both containers ask for: the present capacity if it will do, else that (16 if there is
    none) doubled until the need is met -/
structure NewCap (need siz m : Nat) : Prop where
  need_le : need ≤ m
  siz_le : siz ≤ m
  tight : m = siz ∨ siz = 0 ∧ m = 16 ∨ siz < need ∧ m < 2 * need

theorem newCap_spec {need siz m : Nat} (h : grow need Grow.fuel (if siz ≠ 0 then siz else 16) = some m) :
    NewCap need siz m := by
  have ⟨h1, h2⟩ := grow_some h
  have : siz ≤ m ∧ (m = siz ∨ siz = 0 ∧ m = 16 ∨ siz < need ∧ m < 2 * need) := by split at h2 <;> omega
  exact ⟨h1, this.1, this.2⟩

theorem NewCap.le_max {need siz m : Nat} (h : NewCap need siz m) (hlt : ¬ need ≤ siz) :
    m ≤ max 16 (2 * need) := by
  have := h.tight
  omega

theorem newCap_ne_none {need siz : Nat} (h : 2 * need ≤ maxSize) :
    grow need Grow.fuel (if siz ≠ 0 then siz else 16) ≠ none := by
  apply Option.isSome_iff_ne_none.mp
  apply grow_isSome (k := 64) (by omega)
  have : 0 < (if siz ≠ 0 then siz else 16) := by split <;> omega
  have := Nat.mul_le_mul_right (2 ^ 64) this
  simp only [maxSize] at *
  omega

section vector
open Vec

/-- the request is small enough for none of the four overflow exits -/
def Fits (p : Params) (len n : Nat) : Prop :=
  0 < p.stride ∧ (max 16 (2 * (len + n))) * p.stride + p.hdr ≤ maxSize

/-- the overflow tests of vector_reserve1, at every capacity the doubling loop can hand back (`NewCap.le_max`) -/
theorem Fits.no_overflow {p : Params} {len n : Nat} (hf : Fits p len n) : 2 * (len + n) ≤ maxSize ∧
    ∀ m, m ≤ max 16 (2 * (len + n)) → ¬ m > maxSize / p.stride ∧ ¬ m * p.stride > maxSize - p.hdr := by
  obtain ⟨hs, hb⟩ := hf
  have := Nat.le_mul_of_pos_right (max 16 (2 * (len + n))) hs
  refine ⟨by omega, fun m hm => ?_⟩
  have := Nat.mul_le_mul_right p.stride hm
  exact ⟨Nat.not_lt.mpr ((Nat.le_div_iff_mul_le hs).mpr (by omega)), by omega⟩

theorem reserve1_cases (p : Params) (s : St) (n : Nat) :
    reserve1 p s n = (s, .err) ∧ ¬ Fits p s.items.length n ∨
    ∃ m r, reserve1 p s n = ({ s with siz := m }, r) ∧ r ≠ .err ∧ NewCap (s.items.length + n) s.siz m := by
  fun_cases reserve1 p s n
  case case1 => exact .inl ⟨rfl, fun hf => by have := hf.no_overflow.1; omega⟩           -- `len + n` overflows
  case case2 hfit => exact .inr ⟨s.siz, .ok, rfl, nofun, hfit, Nat.le_refl _, .inl rfl⟩  -- the capacity will do
  case case3 hg => exact .inl ⟨rfl, fun hf => newCap_ne_none hf.no_overflow.1 hg⟩        -- doubling overflows
  case case4 h2 m hg h3 =>                                                               -- `newsiz * stride` overflows
    exact .inl ⟨rfl, fun hf => (hf.no_overflow.2 m ((newCap_spec hg).le_max h2)).1 h3⟩
  case case5 h2 m hg _ h4 =>                                                             -- `… + hdr` overflows
    exact .inl ⟨rfl, fun hf => (hf.no_overflow.2 m ((newCap_spec hg).le_max h2)).2 h4⟩
  case case6 m hg _ _ =>                                                                 -- reallocated
    exact .inr ⟨m, .realloc, rfl, nofun, newCap_spec hg⟩

/-- growth preserves contents -/
theorem reserve1_items (p : Params) (s : St) (n : Nat) : (reserve1 p s n).1.items = s.items := by
  rcases reserve1_cases p s n with ⟨e, _⟩ | ⟨m, r, e, _⟩ <;> rw [e]

/-- after a successful reserve the requested elements fit, and capacity never shrinks -/
theorem reserve1_room (p : Params) (s : St) (n : Nat) (h : (reserve1 p s n).2 ≠ .err) :
    s.items.length + n ≤ (reserve1 p s n).1.siz ∧ s.siz ≤ (reserve1 p s n).1.siz := by
  rcases reserve1_cases p s n with ⟨e, _⟩ | ⟨m, r, e, _, h2⟩
  · rw [e] at h; exact absurd rfl h
  · rw [e]; exact ⟨h2.need_le, h2.siz_le⟩

/-- no spurious failure -/
theorem reserve1_fits (p : Params) (s : St) (n : Nat) (hf : Fits p s.items.length n) :
    (reserve1 p s n).2 ≠ .err := by
  rcases reserve1_cases p s n with ⟨_, h⟩ | ⟨m, r, e, hr, _⟩
  · exact absurd hf h
  · rw [e]; exact hr

/-- the plain-list specification -/
def vspec (l : List Nat) : Op → List Nat × Out
  | .reserve _ => (l, .status false)
  | .alloc v => (l ++ [v], .slot (some (l.length, v)))
  | .calloc => (l ++ [0], .slot (some (l.length, 0)))
  | .pop =>
    match l.getLast? with
    | none => (l, .slot none)
    | some v => (l.dropLast, .slot (some (l.length - 1, v)))
  | .clear => ([], .unit)
  | .sort => (sortAsc l, .unit)
  | .first => (l, .slot (l.head?.map fun v => (0, v)))
  | .last => (l, .slot (l.getLast?.map fun v => (l.length - 1, v)))
  | .length => (l, .len l.length)

def vspecRun : List Nat → List Op → List Nat × List Out
  | l, [] => (l, [])
  | l, op :: ops =>
    let r := vspec l op
    let r' := vspecRun r.1 ops
    (r'.1, r.2 :: r'.2)

def fitsOp (p : Params) (l : List Nat) : Op → Prop
  | .reserve n => Fits p l.length n
  | .alloc _ => Fits p l.length 1
  | .calloc => Fits p l.length 1
  | _ => True

def fitsRun (p : Params) : List Nat → List Op → Prop
  | _, [] => True
  | l, op :: ops => fitsOp p l op ∧ fitsRun p (vspec l op).1 ops

theorem insertAsc_eq : insertAsc = InsertSort.insert (fun x y => decide (x ≤ y)) := by
  funext x l
  induction l with
  | nil => rfl
  | cons y ys ih => simp [insertAsc, InsertSort.insert, ih]

theorem sortAsc_eq : sortAsc = InsertSort.sort (fun x y => decide (x ≤ y)) := by
  funext l
  induction l with
  | nil => rfl
  | cons x xs ih => rw [sortAsc, ih, insertAsc_eq]; rfl

theorem sortAsc_perm (l : List Nat) : (sortAsc l).Perm l := by
  rw [sortAsc_eq]; exact InsertSort.sort_perm l

theorem sortAsc_sorted (l : List Nat) : (sortAsc l).Pairwise (· ≤ ·) := by
  rw [sortAsc_eq]
  exact InsertSort.sort_pairwise (R := (· ≤ ·)) (fun _ _ => of_decide_eq_true)
    (fun _ _ h => Nat.le_of_not_le (of_decide_eq_false h)) (fun _ _ _ h => Nat.le_trans (of_decide_eq_true h)) l

theorem vstep_refines (p : Params) (s : St) (op : Op) (hc : s.items.length ≤ s.siz) (hf : fitsOp p s.items op) :
    (step p s op).2 = (vspec s.items op).2 ∧ (step p s op).1.items = (vspec s.items op).1 ∧
    (step p s op).1.items.length ≤ (step p s op).1.siz := by
  have ok (n : Nat) (hn : Fits p s.items.length n) :
      ((reserve1 p s n).2 == Res.err) = false ∧ s.items.length + n ≤ (reserve1 p s n).1.siz :=
    have h := reserve1_fits p s n hn
    ⟨beq_eq_false_iff_ne.mpr h, (reserve1_room p s n h).1⟩
  cases op with
  | reserve n =>
    simp only [step, vspec, (ok n hf).1, reserve1_items]
    exact ⟨trivial, trivial, by have := (ok n hf).2; omega⟩
  | alloc _ | calloc =>
    simp only [step, vspec, (ok 1 hf).1, Bool.false_eq_true, if_false, reserve1_items, List.length_append,
      List.length_cons, List.length_nil]
    exact ⟨trivial, trivial, (ok 1 hf).2⟩
  | pop =>
    simp only [step, vspec]
    cases hl : s.items.getLast? with
    | none => exact ⟨rfl, rfl, hc⟩
    | some v => exact ⟨rfl, rfl, show s.items.dropLast.length ≤ s.siz by rw [List.length_dropLast]; omega⟩
  | clear => exact ⟨rfl, rfl, by simp [step]⟩
  | sort => exact ⟨rfl, rfl, by simp only [step, (sortAsc_perm s.items).length_eq]; exact hc⟩
  | first | last | length => exact ⟨rfl, rfl, hc⟩

/-- **C20, vector**: any operation sequence behaves as the plain list; the
    capacity and every reallocation are unobservable; the live elements always
    lie inside the allocation (`len ≤ vc_siz`). -/
theorem vector_refines (p : Params) (ops : List Op) :
    ∀ (s : St), s.items.length ≤ s.siz → fitsRun p s.items ops →
      (run p s ops).2 = (vspecRun s.items ops).2 ∧ (run p s ops).1.items = (vspecRun s.items ops).1 ∧
      (run p s ops).1.items.length ≤ (run p s ops).1.siz := by
  induction ops with
  | nil => intro s hc _; exact ⟨rfl, rfl, hc⟩
  | cons op ops ih =>
    intro s hc hf
    obtain ⟨hout, hitems, hcap⟩ := vstep_refines p s op hc hf.1
    have := ih (step p s op).1 hcap (hitems ▸ hf.2)
    rw [hitems] at this
    simp only [run, vspecRun, hout]
    exact ⟨congrArg _ this.1, this.2⟩

/-- `len ≤ vc_siz` in every reachable state -/
theorem cap_reachable (p : Params) (ops : List Op) (hf : fitsRun p [] ops) :
    (run p {} ops).1.items.length ≤ (run p {} ops).1.siz :=
  (vector_refines p ops {} (Nat.le_refl 0) hf).2.2

/-- a failed reserve leaves the vector as it was -/
theorem reserve1_err_unchanged (p : Params) (s : St) (n : Nat) (h : (reserve1 p s n).2 = .err) :
    (reserve1 p s n).1 = s := by
  rcases reserve1_cases p s n with ⟨e, _⟩ | ⟨m, r, e, hr, _⟩
  · rw [e]
  · rw [e] at h; exact absurd h hr

/-- the model's result is the only sorted permutation, so it does not matter
    which algorithm `qsort` is -/
theorem sort_any (srt : List Nat → List Nat) (hp : ∀ l, (srt l).Perm l) (hs : ∀ l, (srt l).Pairwise (· ≤ ·))
    (l : List Nat) : srt l = sortAsc l := by
  apply List.Perm.eq_of_pairwise (le := fun a b => a ≤ b)
  · intro a b _ _ hab hba; exact Nat.le_antisymm hab hba
  · exact hs l
  · exact sortAsc_sorted l
  · exact (hp l).trans (sortAsc_perm l).symm

end vector

section buffer
open Buf

theorem reserve_cases (s : St) (n : Nat) :
    reserve s n = none ∧ maxSize < 2 * (s.bytes.length + n) ∨
    ∃ m, reserve s n = some { s with siz := m } ∧ NewCap (s.bytes.length + n) s.siz m := by
  fun_cases reserve s n
  case case1 => exact .inl ⟨rfl, by omega⟩                                   -- `len + n` overflows
  case case2 h2 => exact .inr ⟨s.siz, rfl, h2.2, Nat.le_refl _, .inl rfl⟩    -- the capacity will do
  case case3 =>                                                              -- the doubling loop
    cases hg : grow (s.bytes.length + n) Grow.fuel (if s.siz ≠ 0 then s.siz else 16) with
    | none => exact .inl ⟨rfl, Nat.lt_of_not_le fun h => newCap_ne_none h hg⟩
    | some m => exact .inr ⟨m, rfl, newCap_spec hg⟩

theorem reserve_small (s : St) (n : Nat) (h : 2 * (s.bytes.length + n) ≤ maxSize) :
    ∃ m, reserve s n = some { s with siz := m } ∧ NewCap (s.bytes.length + n) s.siz m :=
  (reserve_cases s n).resolve_left fun h' => by omega

/-- the second vsnprintf pass of buffer_vprintf has room for the text and its NUL -/
theorem printf_room (s s' : St) (out : Bytes) (h : reserve s (out.length + 1) = some s') :
    out.length < s'.siz - s'.bytes.length := by
  obtain ⟨m, e, hm⟩ := (reserve_cases s (out.length + 1)).resolve_left fun h' => by rw [h'.1] at h; cases h
  rw [e] at h
  cases h
  have := hm.need_le
  show out.length < m - s.bytes.length
  omega

theorem getline_all_aux (s : St) {fuel off : Nat} (a : Bool) (h : s.bytes.length < off + fuel) :
    getlineAll fuel s ⟨a, off⟩ = Bytes.rawLines (s.bytes.drop off) := by
  induction fuel generalizing off a with
  | zero => rw [List.drop_eq_nil_of_le (by omega)]; rfl
  | succ f ih =>
    unfold getlineAll getline
    by_cases hoff : off ≥ s.bytes.length
    · rw [if_pos hoff, List.drop_eq_nil_of_le hoff]; rfl
    · have hd : s.bytes.drop off ≠ [] := by simpa using hoff
      rw [if_neg hoff, Bytes.rawLines, Bytes.rawLinesAux_eq, if_neg hd]
      simp only  -- the `match` on the pair `getline` returns
      rw [ih true (by omega), List.drop_drop, List.nil_append, Nat.add_assoc]; rfl

/-- the getline loop yields exactly the '\n'-separated lines of the buffer:
    every byte in exactly one line, in order, no final empty line -/
theorem getline_all (s : St) : getlineAll (s.bytes.length + 1) s {} = Bytes.rawLines s.bytes := by
  simpa using getline_all_aux s (fuel := s.bytes.length + 1) (off := 0) false (by omega)

theorem wantOf_pos (cs : List Nat) {avail : Nat} (h : 0 < avail) : 0 < wantOf cs avail := by
  cases cs with
  | nil => exact h
  | cons k _ => exact Nat.le_max_left 1 k

/-- buffer_read_fd_impl's `buffer_reserve(bf, bf->bf_siz / 2)`; `B` is any bound above four times the
    final length `T` -/
theorem reserve_half {B T : Nat} (hB : 4 * T + 2 ≤ B) (hM : 2 * (T + B) ≤ maxSize) (s : St)
    (h2 : 2 ≤ s.siz) (hT : s.bytes.length ≤ T) (hsB : s.siz ≤ B) :
    ∃ m, reserve s (s.siz / 2) = some { s with siz := m } ∧ 2 ≤ m ∧ s.bytes.length < m ∧ m ≤ B := by
  obtain ⟨m, e, hneed, hsiz, htight⟩ := reserve_small s (s.siz / 2) (by omega)
  refine ⟨m, e, Nat.le_trans h2 hsiz, ?_, ?_⟩
  · omega
  · -- `htight`: the capacity changes only if `siz < len + siz / 2`, and then `m < 2 * len + siz < 4 * len`
    omega

/-- the loop of buffer_read_fd_impl; its invariant `hroom`: room for at least one byte -/
theorem readFd_spec {B T : Nat} (hB : 4 * T + 2 ≤ B) (hM : 2 * (T + B) ≤ maxSize)
    {fuel : Nat} {s : St} {rem : Bytes} (cs : List Nat) (hf : rem.length < fuel) (h2 : 2 ≤ s.siz)
    (hroom : s.bytes.length < s.siz) (hsB : s.siz ≤ B) (hT : s.bytes.length + rem.length = T) :
    ∃ m, readFd fuel s rem cs = some ⟨s.bytes ++ rem, m⟩ ∧ s.bytes.length + rem.length < m := by
  induction fuel generalizing s rem cs with
  | zero => omega
  | succ f ih =>
    simp only [readFd]
    cases rem with
    | nil =>
      rw [if_pos (by simp)]
      exact ⟨s.siz, by simp, by simpa using hroom⟩
    | cons c r =>
      -- the kernel hands over `n` bytes
      have havail := Nat.sub_pos_of_lt hroom
      generalize e : min (wantOf cs (s.siz - s.bytes.length)) (min (s.siz - s.bytes.length) (c :: r).length) = n
      obtain ⟨hn0, hnlen⟩ : 0 < n ∧ n ≤ (c :: r).length := e ▸
        ⟨Nat.lt_min.mpr ⟨wantOf_pos cs havail, Nat.lt_min.mpr ⟨havail, Nat.succ_pos _⟩⟩,
          Nat.le_trans (Nat.min_le_right _ _) (Nat.min_le_right _ _)⟩
      clear e
      have hlen : (s.bytes ++ (c :: r).take n).length = s.bytes.length + n := by
        rw [List.length_append, List.length_take, Nat.min_eq_left hnlen]
      obtain ⟨m, e, hm2, hmr, hmB⟩ := reserve_half hB hM { s with bytes := s.bytes ++ (c :: r).take n }
        h2 (by rw [hlen]; omega) hsB
      rw [if_neg (by omega)]
      simp only [e]
      obtain ⟨m', e', hm'⟩ := ih (s := ⟨s.bytes ++ (c :: r).take n, m⟩) (rem := (c :: r).drop n) cs.tail
        (by rw [List.length_drop]; omega) hm2 hmr hmB (by simp only [hlen, List.length_drop]; omega)
      simp only [List.append_assoc, List.take_append_drop, hlen, List.length_drop] at e' hm'
      exact ⟨m', e', by omega⟩

theorem readFd_all (s : St) (file : Bytes) (cs : List Nat) (h2 : 2 ≤ s.siz)
    (hroom : s.bytes.length < s.siz)
    (hsmall : 10 * (s.siz + s.bytes.length + file.length) + 10 ≤ maxSize) :
    ∃ m, readFd (file.length + 1) s file cs = some ⟨s.bytes ++ file, m⟩ ∧ s.bytes.length + file.length < m :=
  -- `B`: the capacity at the start, or what `reserve_half` allows; `hsmall` is `2 * (T + B) ≤ maxSize` rounded up
  readFd_spec (B := s.siz + 4 * (s.bytes.length + file.length) + 2) (T := s.bytes.length + file.length)
    (by omega) (by omega) cs (by omega) h2 hroom (by omega) rfl

/-- **whatever the kernel returns from each read(2)** (any positive number of
    bytes up to what was asked for), reading a descriptor into a buffer that
    has room yields the buffer's bytes followed by the whole stream -/
theorem readFd_complete (s : St) (file : Bytes) (cs : List Nat) (h2 : 2 ≤ s.siz)
    (hroom : s.bytes.length < s.siz)
    (hsmall : 10 * (s.siz + s.bytes.length + file.length) + 10 ≤ maxSize) :
    ∃ s', readFd (file.length + 1) s file cs = some s' ∧ s'.bytes = s.bytes ++ file := by
  obtain ⟨m, e, -⟩ := readFd_all s file cs h2 hroom hsmall
  exact ⟨_, e, rfl⟩

/-- buffer_read_fd_impl on a buffer WITHOUT room (possible only through the
    public `_impl` entry, never through buffer_read/buffer_read_fd, which
    allocate 8 KiB first) reports success having read nothing -/
example : readFd 5 ⟨[1, 2], 2⟩ [7, 8, 9] [] = some ⟨[1, 2], 2⟩ := by decide +kernel

def bspec (b : Bytes) : Op → Bytes × Out
  | .puts x => (b ++ x, .status false)
  | .putc c => (b ++ [c], .status false)
  | .printf o => (b ++ o, .status false)
  | .reset => ([], .unit)
  | .pop n => (b.take (b.length - min n b.length), .n (min n b.length))
  | .str => ([], .bytes (some (if b = [] ∨ b.getLast? ≠ some 0 then b ++ [0] else b)))
  | .read f _ => (b ++ f, .status false)
  | .lines => (b, .lines (Bytes.rawLines b))
  | .len => (b, .n b.length)

def bspecRun : Bytes → List Op → Bytes × List Out
  | b, [] => (b, [])
  | b, op :: ops =>
    let r := bspec b op
    let r' := bspecRun r.1 ops
    (r'.1, r.2 :: r'.2)

/-- sizes stay far from SIZE_MAX, and a descriptor is read into a buffer that
    has room (what buffer_alloc(8192) provides) -/
def smallOp (s : St) : Op → Prop
  | .puts x => 2 * (s.bytes.length + x.length) ≤ maxSize
  | .putc _ => 2 * (s.bytes.length + 1) ≤ maxSize
  | .printf o => 2 * (s.bytes.length + o.length + 1) ≤ maxSize
  | .str => 2 * (s.bytes.length + 1) ≤ maxSize
  | .read f _ => 2 ≤ s.siz ∧ s.bytes.length < s.siz ∧ 10 * (s.siz + s.bytes.length + f.length) + 10 ≤ maxSize
  | _ => True

def smallRun : St → List Op → Prop
  | _, [] => True
  | s, op :: ops => smallOp s op ∧ smallRun (step s op).1 ops

theorem puts_spec (s : St) (x : Bytes) (h : 2 * (s.bytes.length + x.length) ≤ maxSize)
    (hc : s.bytes.length ≤ s.siz) :
    ∃ m, puts s x = (⟨s.bytes ++ x, m⟩, false) ∧ s.bytes.length + x.length ≤ m := by
  unfold puts
  by_cases hx : x = []
  · subst hx; exact ⟨s.siz, by simp, hc⟩
  · obtain ⟨m, e, hm⟩ := reserve_small s x.length h
    rw [if_neg hx, e]; exact ⟨m, rfl, hm.need_le⟩

theorem bstep_refines (s : St) (op : Op) (hc : s.bytes.length ≤ s.siz) (hs : smallOp s op) :
    (step s op).2 = (bspec s.bytes op).2 ∧ (step s op).1.bytes = (bspec s.bytes op).1 ∧
    (step s op).1.bytes.length ≤ (step s op).1.siz := by
  cases op with
  | puts x =>
    obtain ⟨m, e, hm⟩ := puts_spec s x hs hc
    simp only [step, bspec, e, List.length_append]
    exact ⟨trivial, trivial, hm⟩
  | putc c =>
    obtain ⟨m, e, hm⟩ := puts_spec s [c] hs hc
    simp only [step, bspec, putc, e, List.length_append]
    exact ⟨trivial, trivial, hm⟩
  | printf o =>
    obtain ⟨m, e, hm, -⟩ := reserve_small s (o.length + 1) (by simp only [smallOp] at hs; omega)
    simp only [step, bspec, printf, e]
    rw [if_neg (Nat.not_le.mpr (printf_room s _ o e))]
    simp only [List.length_append]
    exact ⟨trivial, trivial, by omega⟩
  | reset => exact ⟨rfl, rfl, by simp [step, reset]⟩
  | pop n =>
    refine ⟨rfl, rfl, ?_⟩
    simp only [step, pop, List.length_take]; omega
  | str =>
    simp only [step, bspec, str]
    by_cases hcnd : s.bytes = [] ∨ s.bytes.getLast? ≠ some 0
    · obtain ⟨m, e, -⟩ := puts_spec s [0] hs hc
      rw [if_pos hcnd, if_pos hcnd]
      simp only [putc, e, Bool.false_eq_true, if_false]
      exact ⟨trivial, trivial, by simp⟩
    · rw [if_neg hcnd, if_neg hcnd]
      exact ⟨rfl, rfl, by simp⟩
  | read f cs =>
    obtain ⟨h2, hroom, hsmall⟩ := hs
    obtain ⟨m, e, hm⟩ := readFd_all s f cs h2 hroom hsmall
    simp only [step, bspec, e, List.length_append]
    exact ⟨trivial, trivial, by omega⟩
  | lines =>
    refine ⟨?_, rfl, hc⟩
    simp only [step, bspec, getline_all]
  | len => exact ⟨rfl, rfl, hc⟩

/-- **C20, buffer**: any operation sequence behaves as the plain byte string;
    capacity and reallocation are unobservable; `bf_len ≤ bf_siz` throughout. -/
theorem buffer_refines (ops : List Op) :
    ∀ (s : St), s.bytes.length ≤ s.siz → smallRun s ops →
      (run s ops).2 = (bspecRun s.bytes ops).2 ∧ (run s ops).1.bytes = (bspecRun s.bytes ops).1 ∧
      (run s ops).1.bytes.length ≤ (run s ops).1.siz := by
  induction ops with
  | nil => intro s hc _; exact ⟨rfl, rfl, hc⟩
  | cons op ops ih =>
    intro s hc hsm
    obtain ⟨hout, hbytes, hcap⟩ := bstep_refines s op hc hsm.1
    have := ih (step s op).1 hcap hsm.2
    rw [hbytes] at this
    simp only [run, bspecRun, hout]
    exact ⟨congrArg _ this.1, this.2⟩

/-- buffer_cmp is equality of contents -/
theorem cmp_iff (a b : St) : cmpNe a b = false ↔ a.bytes = b.bytes := by
  fun_cases cmpNe a b
  case case1 hl => exact ⟨nofun, fun h => absurd (congrArg List.length h) hl⟩    -- the lengths differ
  case case2 hl h0 =>                                                            -- both are empty
    have hb : b.bytes.length = 0 := Decidable.not_not.mp hl ▸ h0
    rw [List.eq_nil_of_length_eq_zero h0, List.eq_nil_of_length_eq_zero hb]
    simp
  case case3 => simp                                                             -- memcmp

end buffer

/-! non-vacuity: a concrete run meets `fitsRun` -/

example : Vec.step ⟨8, 56⟩ ⟨List.range 16, 16⟩ (.alloc 99) =
    (⟨List.range 16 ++ [99], 32⟩, .slot (some (16, 99))) := by decide +kernel
example : fitsRun ⟨8, 56⟩ [] [.reserve 40, .alloc 5, .alloc 3, .sort, .pop, .calloc, .last] := by
  simp [fitsRun, fitsOp, Fits, vspec, maxSize, Vec.sortAsc, Vec.insertAsc]
example : (Vec.run ⟨8, 56⟩ {} [.reserve 40, .alloc 5, .alloc 3, .sort, .pop, .calloc, .last]).1 = ⟨[3, 0], 64⟩ := by
  decide +kernel
example : (Buf.step ⟨[97, 10, 98, 10, 10, 99], 16⟩ .lines).2 = .lines [[97], [98], [], [99]] := by decide +kernel
example : (Buf.readFd 6 ⟨[], 2⟩ [1, 2, 3, 4, 5] [1, 9, 1]).map (·.bytes) = some [1, 2, 3, 4, 5] := by decide +kernel

end C20Cont
end Robsd
