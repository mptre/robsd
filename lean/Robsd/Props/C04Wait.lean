import Robsd.Model.Wait
import Robsd.Lemmas.ListFacts
/-
  C04, the barrier and the queue-full wait as robsd-wait.c implements them.  Without `-a` the helper
  prints the list `robsd()` keeps as `_jobs`; with `-a` (the barrier in front of a synchronous step)
  it returns only after every pid has been reported, and prints nothing.  The same pid given twice
  and `-a`: one exit event removes one entry, the other is never reported, the helper blocks (the
  orchestrator never passes duplicates: `_jobs` holds the pids of distinct children).
-/
namespace Robsd
namespace C04Wait
open Wait

theorem handle_nil (b : List Nat) : handle [] b = [] :=
  List.foldlRecOn (motive := (· = [])) b _ rfl fun _ h _ _ => by subst h; rfl

theorem handle_eq_filter {pids : List Nat} (hn : pids.Nodup) (b : List Nat) :
    handle pids b = pids.filter (fun p => !b.contains p) := by
  induction b generalizing pids with
  | nil => exact (List.filter_eq_self.mpr fun _ _ => rfl).symm
  | cons x xs ih =>
    refine (ih (hn.erase x)).trans ?_
    rw [hn.erase_eq_filter]
    exact filter_ne_filter_not_contains pids x xs

/-- without `-a`: what is printed is exactly the unreported pids, in argument order -/
theorem any_returns_rest (args : List Bytes) (pids : List Nat) (b : List Nat) (bs : List (List Nat))
    (hp : parsePids args = some pids) (hn : pids.Nodup) :
    ∃ rest, run false args (b :: bs) = some (0, rest) ∧ rest.Sublist pids ∧ ∀ p, p ∈ rest ↔ p ∈ pids ∧ p ∉ b := by
  refine ⟨handle pids b, by simp [run, hp], ?_, ?_⟩ <;> rw [handle_eq_filter hn]
  · exact List.filter_sublist
  · simp

theorem mem_handle_of_not_mem {pids b : List Nat} {p : Nat} (hp : p ∈ pids) (hb : p ∉ b) : p ∈ handle pids b :=
  List.foldlRecOn (motive := (p ∈ ·)) b _ hp fun _ h x hx => (List.mem_erase_of_ne fun (e : p = x) => hb (e ▸ hx)).mpr h

theorem waitAll_succ_cons (f : Nat) (pids b : List Nat) (bs : List (List Nat)) :
    waitAll (f + 1) pids (b :: bs) = waitAll f (handle pids b) bs := by
  cases pids with
  | nil => rw [handle_nil]; cases f <;> rfl
  | cons p ps => rfl

theorem waitAll_spec {f : Nat} {pids : List Nat} {bs : List (List Nat)} {r : List Nat}
    (h : waitAll f pids bs = some r) : r = [] ∧ ∀ p ∈ pids, ∃ b ∈ bs, p ∈ b := by
  induction f generalizing pids bs with
  | zero => cases pids <;> cases h <;> exact ⟨rfl, nofun⟩
  | succ f ih =>
    cases bs with
    | nil => cases pids <;> cases h <;> exact ⟨rfl, nofun⟩
    | cons b bs =>
      rw [waitAll_succ_cons] at h
      refine ⟨(ih h).1, fun q hq => ?_⟩
      by_cases hqb : q ∈ b
      · exact ⟨b, List.mem_cons_self .., hqb⟩
      · -- q survives this batch, so a later one reports it
        obtain ⟨b', hb', hqb'⟩ := (ih h).2 q (mem_handle_of_not_mem hq hqb)
        exact ⟨b', List.mem_cons_of_mem _ hb', hqb'⟩

/-- with `-a` the helper returns only when every pid has been reported, and then prints nothing -/
theorem all_never_early (args : List Bytes) (pids : List Nat) (batches : List (List Nat)) (r : Nat × List Nat)
    (hp : parsePids args = some pids) (h : run true args batches = some r) :
    r = (0, []) ∧ ∀ p ∈ pids, ∃ b ∈ batches, p ∈ b := by
  simp only [run, hp] at h
  cases batches with
  | nil => simp at h
  | cons b bs =>
    -- the first batch, handled in front of the loop, is the loop's first turn
    simp only [if_true, Option.map_eq_some_iff, ← waitAll_succ_cons] at h
    obtain ⟨rest, hw, rfl⟩ := h
    have := waitAll_spec hw
    exact ⟨by rw [this.1], this.2⟩

/-- the same pid twice with `-a`: blocked although the process has exited -/
theorem dup_hangs : run true [[53], [53]] [[5]] = none := by decide +kernel

example : run false [[53], [54, 50], [55]] [[62], [5]] = some (0, [5, 7]) := by decide +kernel
example : run true [[53], [54, 50], [55]] [[62], [7, 5]] = some (0, []) := by decide +kernel
example : run true [[53], [54, 50]] [[62]] = none := by decide +kernel
example : run false [[53], [120]] [[5]] = some (1, []) := by decide +kernel

end C04Wait
end Robsd
