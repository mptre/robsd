import Robsd.Model.RegressLog
/-
  C13: regress log extraction is sound, complete and agrees with its exit status.

  One induction over the lines shows that `blocksFrom` meets the declarative
  specification `Extracts`; the rest is read off it.  All of it is generic in
  the marker and the match predicate, hence holds for all 15 selections, and
  quantifies over every log and every initial scratch content.
-/
namespace Robsd
namespace C13
open Bytes RegressLog

/-- The scratch buffer after the lines `xs` were appended to scratch `sc`:
    everything since the last marker line (inclusive), or all of it. -/
def sinceMarker (mark : Bytes → Bool) (sc : List Bytes) : List Bytes → List Bytes
  | [] => sc
  | x :: xs => sinceMarker mark ((if mark x then [] else sc) ++ [x]) xs

/-- `Extracts mark sel sc ls bs`: the lines `ls`, read with `sc` in the scratch buffer, yield the blocks `bs`. -/
inductive Extracts (mark sel : Bytes → Bool) : List Bytes → List Bytes → List (List Bytes) → Prop where
  | done (sc ls : List Bytes) : (∀ l ∈ ls, sel l = false) → Extracts mark sel sc ls []
  | block (sc pre : List Bytes) (l : Bytes) (rest : List Bytes) (bs : List (List Bytes)) :
      (∀ x ∈ pre, sel x = false) → sel l = true → Extracts mark sel [] rest bs →
      Extracts mark sel sc (pre ++ l :: rest) (sinceMarker mark sc (pre ++ [l]) :: bs)

theorem Extracts.skip {mark sel : Bytes → Bool} {sc ls : List Bytes} {l : Bytes} {bs : List (List Bytes)}
    (hl : sel l = false) (h : Extracts mark sel ((if mark l then [] else sc) ++ [l]) ls bs) :
    Extracts mark sel sc (l :: ls) bs := by
  cases h with
  | done _ _ hall => exact .done _ _ (List.forall_mem_cons.mpr ⟨hl, hall⟩)
  | block _ pre l' rest bs hpre hl' hrest =>
    exact .block sc (l :: pre) l' rest bs (List.forall_mem_cons.mpr ⟨hl, hpre⟩) hl' hrest

theorem blocks_extracts {mark sel : Bytes → Bool} {sc ls : List Bytes} :
    Extracts mark sel sc ls (blocksFrom mark sel sc ls) := by
  induction ls generalizing sc with
  | nil => exact .done sc [] (by simp)
  | cons l ls ih =>
    rw [blocksFrom]
    by_cases hl : sel l = true
    · rw [if_pos hl]
      exact .block sc [] l ls _ (by simp) hl ih
    · rw [if_neg hl]
      exact .skip (Bool.eq_false_iff.mpr hl) ih

theorem parse_extracts (sel : Sel) (ls : List Bytes) :
    Extracts isMarker (selected sel) [] (ls.dropWhile isXtrace) (parse sel ls) :=
  blocks_extracts

/-- `sinceMarker` is a suffix of what was written to the scratch buffer … -/
theorem sinceMarker_suffix (mark : Bytes → Bool) (sc xs : List Bytes) :
    sinceMarker mark sc xs <:+ sc ++ xs := by
  induction xs generalizing sc with
  | nil => simp [sinceMarker]
  | cons x xs ih =>
    rw [sinceMarker]
    split
    · exact (ih _).trans (List.suffix_append sc (x :: xs))
    · rw [List.append_cons sc x xs]
      exact ih _

/-- … and it always ends with the last line appended. -/
theorem sinceMarker_snoc (mark : Bytes → Bool) (sc pre : List Bytes) (l : Bytes) :
    sinceMarker mark sc (pre ++ [l]) = (if mark l then [] else sinceMarker mark sc pre) ++ [l] := by
  induction pre generalizing sc with
  | nil => rfl
  | cons x xs ih => exact ih _

theorem Extracts.ne_nil_iff {mark sel : Bytes → Bool} {sc ls : List Bytes} {bs : List (List Bytes)}
    (h : Extracts mark sel sc ls bs) : bs ≠ [] ↔ ∃ l ∈ ls, sel l = true := by
  cases h with
  | done _ _ hall => simpa using hall
  | block _ pre l rest bs _ hl _ => simpa using ⟨l, by simp, hl⟩

/-- a block is extracted (exit status 0, `main_exit`) iff a selected line follows the leading trace -/
theorem exit_iff (sel : Sel) (ls : List Bytes) :
    (parse sel ls).length > 0 ↔ ∃ l ∈ ls.dropWhile isXtrace, selected sel l = true :=
  List.length_pos_iff.trans (parse_extracts sel ls).ne_nil_iff

theorem Extracts.sublist {mark sel : Bytes → Bool} {sc ls : List Bytes} {bs : List (List Bytes)}
    (h : Extracts mark sel sc ls bs) : bs.flatten.Sublist (sc ++ ls) := by
  induction h with
  | done => exact List.nil_sublist _
  | block sc pre l rest bs _ _ _ ih =>
    rw [List.flatten_cons, List.append_cons pre l rest, ← List.append_assoc]
    exact (sinceMarker_suffix mark sc (pre ++ [l])).sublist.append ih

theorem output_subsequence (sel : Sel) (ls : List Bytes) :
    (parse sel ls).flatten.Sublist ls :=
  (parse_extracts sel ls).sublist.trans (List.dropWhile_sublist _)

theorem Extracts.complete {mark sel : Bytes → Bool} {sc ls : List Bytes} {bs : List (List Bytes)}
    (h : Extracts mark sel sc ls bs) {l : Bytes} (hl : l ∈ ls) (hs : sel l = true) : l ∈ bs.flatten := by
  induction h with
  | done sc ls hall => simp [hall l hl] at hs
  | block sc pre l' rest bs hpre hl' _ ih =>
    rw [List.flatten_cons, List.mem_append, sinceMarker_snoc]
    rcases List.mem_append.mp hl with hl | hl
    · simp [hpre l hl] at hs
    · rcases List.mem_cons.mp hl with rfl | hl
      · simp
      · exact .inr (ih hl)

theorem output_complete (sel : Sel) (ls : List Bytes) (l : Bytes)
    (hl : l ∈ ls.dropWhile isXtrace) (hs : selected sel l = true) :
    l ∈ (parse sel ls).flatten :=
  (parse_extracts sel ls).complete hl hs

theorem peekFrom_pos_iff {sel : Bytes → Bool} {ls : List Bytes} :
    peekFrom sel ls > 0 ↔ ∃ l ∈ ls, sel l = true := by
  induction ls with
  | nil => simp [peekFrom]
  | cons l ls ih =>
    rw [peekFrom]
    cases h : sel l <;> simp [h, ih]

theorem peek_agrees (sel : Sel) (ls : List Bytes) :
    peek sel ls > 0 ↔ (parse sel ls).length > 0 := by
  rw [exit_iff]
  exact peekFrom_pos_iff

theorem mainLoop_spec (sel : Sel) (fs : List (Option Bytes)) (n : Nat) (bf : Bytes) (err : Bool) :
    (mainLoop sel fs n bf err).1 = n + fs.countP (fun f => match f with
        | some c => ((lines c).dropWhile isXtrace).any (selected sel)
        | none => false) ∧
    (mainLoop sel fs n bf err).2.2 = (err || fs.any (fun f => f.isNone)) := by
  induction fs generalizing n bf err with
  | nil => simp [mainLoop]
  | cons f fs ih =>
    cases f with
    | none => simp [mainLoop, ih]
    | some c =>
      have hc : ((lines c).dropWhile isXtrace).any (selected sel) = decide ((parse sel (lines c)).length > 0) := by
        rw [Bool.eq_iff_iff, List.any_eq_true, decide_eq_true_iff, exit_iff]
      simp only [mainLoop, parseOut, List.countP_cons, List.any_cons, hc]
      -- the loop goes on with `n` or `n + 1`; `ih` holds for either
      by_cases h : (parse sel (lines c)).length = 0
      · simp [h, ih]
      · simp [h, ih, Nat.pos_of_ne_zero h, Nat.add_assoc, Nat.add_comm 1]

/-- Exit status: 2 iff a file could not be read; otherwise 0 iff some file has
    a selected line after its leading trace block, else 1. -/
theorem main_exit (sel : Sel) (doprint : Bool) (fs : List (Option Bytes)) :
    (main sel doprint fs).1 =
      if fs.any (fun f => f.isNone) then 2
      else if fs.any (fun f => match f with
        | some c => ((lines c).dropWhile isXtrace).any (selected sel)
        | none => false) then 0 else 1 := by
  obtain ⟨h1, h2⟩ := mainLoop_spec sel fs 0 [] false
  -- `main` tests `countP = 0` (exit 1 first), the statement `any` (exit 0 first): the branches are swapped
  simp only [main, h1, h2, Bool.false_or, Nat.zero_add, List.countP_eq_zero, ← List.any_eq_false]
  split
  · rfl
  · generalize List.any fs _ = hit
    cases hit <;> rfl

/-- With printing disabled nothing is printed and the exit status is the same. -/
theorem noprint_same_exit (sel : Sel) (fs : List (Option Bytes)) :
    (main sel false fs).1 = (main sel true fs).1 ∧ (main sel false fs).2 = [] := by
  constructor
  · rw [main_exit, main_exit]
  · simp [main]

/-- A log with a FAILED or UNEXPECTED_PASS line outside the leading trace is
    classified as failed by `robsd-regress-log -FPn` (what `regress_failed` runs). -/
theorem failed_classified (c : Bytes) (l : Bytes)
    (hl : l ∈ (lines c).dropWhile isXtrace) (hf : isFailed l = true ∨ isXpassed l = true) :
    (main ⟨true, false, false, true⟩ false [some c]).1 = 0 := by
  rw [main_exit]
  have : ((lines c).dropWhile isXtrace).any (selected ⟨true, false, false, true⟩) = true := by
    rw [List.any_eq_true]
    refine ⟨l, hl, ?_⟩
    rcases hf with h | h <;> simp [selected, h]
  simp [this]

private def L (s : String) : Bytes := s.toList.map (fun c => UInt8.ofNat c.toNat)
/-- see `Conf.S_ofList` -/
private theorem L_ofList (l : List Char) : L (String.ofList l) = l.map (fun c => UInt8.ofNat c.toNat) := by
  rw [L, String.toList_ofList]

example : isMarker (L "==== t1 ====") = true ∧ isMarker (L "===> sub") = true ∧
    isMarker (L "==== t1 ===") = false ∧ isMarker (L "====t1 ====") = false := by
  repeat rw [L_ofList]
  decide +kernel
example : parse ⟨true, false, false, false⟩
    [L "+ trace", L "==== a ====", L "ok", L "==== b ====", L "x", L "FAILED", L "tail"] =
    [[L "==== b ====", L "x", L "FAILED"]] := by
  repeat rw [L_ofList]
  decide +kernel
example : (main ⟨true, false, false, true⟩ false [some (L "+ FAILED\nUNEXPECTED_PASS\n")]).1 = 0 := by
  rw [L_ofList]
  decide +kernel
example : (main ⟨true, false, false, true⟩ false [some (L "+ FAILED\nfine\n")]).1 = 1 := by
  rw [L_ofList]
  decide +kernel

end C13
end Robsd
