import Robsd.Props.C08Complete
/-
  C08/C10, robsd-regress: the `regress` statements of a configuration become
  the test list the schedule is built from.

  For every list of statements
      regress "path" [root] [quiet] [no-parallel] [targets { .. }] [obj { .. }] [packages { .. }]
  (options in any order and number; `env { .. }` is outside this fragment since
  it interpolates while parsing), `regress_tokens` shows that the parser accepts
  the tokens and that afterwards
    * `${regress}` is the list of paths in file order, duplicates kept, and
    * `regress-<path>-parallel` is defined (as 0) exactly for the paths that
      carry `no-parallel` on some occurrence —
  which is precisely the `List RegressEntry` (name, noParallel) that C10's
  `regress_order` / `regress_each_as_configured` quantify over.
-/
namespace Robsd
namespace C08
open Conf

inductive ROpt where
  | root | quiet | noParallel
  | targets (xs : List Bytes)
  | obj (xs : List Bytes)
  | packages (xs : List Bytes)
deriving Repr, DecidableEq

structure RStmt where
  path : Bytes
  opts : List ROpt
deriving Repr

def listToks (xs : List Bytes) : List Tok := lbrace :: (xs.map Tok.str ++ [rbrace])

def ROpt.toks : ROpt → List Tok
  | .root => [.typ (S "ROOT")]
  | .quiet => [.typ (S "QUIET")]
  | .noParallel => [.typ (S "NO_PARALLEL")]
  | .targets xs => .typ (S "TARGETS") :: listToks xs
  | .obj xs => .typ (S "OBJ") :: listToks xs
  | .packages xs => .typ (S "PACKAGES") :: listToks xs

def RStmt.toks (st : RStmt) : List Tok := .kw (S "regress") :: .str st.path :: st.opts.flatMap ROpt.toks

/-- what one option does to the state (read off `config_parse_regress`) -/
def applyOpt (path : Bytes) (s : St) : ROpt → St
  | .root => append s (regressName path (S "root")) (.int 1)
  | .quiet => append s (regressName path (S "quiet")) (.int 1)
  | .noParallel => append s (regressName path (S "parallel")) (.int 0)
  | .targets xs => findOrCreateExtend s (regressName path (S "targets")) xs
  | .obj xs => findOrCreateExtend s (S "regress-obj") xs
  | .packages xs => findOrCreateExtend s (S "regress-packages") xs

/-- as `canvasOptions_stop` (Props/C08Steps), for the other option loop -/
theorem regressOptions_stop (env : Env) (path : Bytes) (fuel : Nat) (s : St) (rest : List Tok) (h : stops rest) :
    regressOptions .regress env path (fuel + 1) s rest = some (s, rest) := by
  cases rest with
  | nil => simp [stops] at h
  | cons t ts => cases t <;> simp [stops] at h <;> rfl

theorem regressOptions_option (env : Env) (path : Bytes) (fuel : Nat) (s : St) (o : ROpt) (tl : List Tok) :
    regressOptions .regress env path (fuel + 1) s (o.toks ++ tl) =
      regressOptions .regress env path fuel (applyOpt path s o) tl := by
  -- the option words in the order `regressOptions` tests for them: `hw` decides the `if`s before an option's own word
  have hw : [S "ENV", S "NO_PARALLEL", S "OBJ", S "PACKAGES", S "QUIET", S "ROOT", S "TARGETS"].Pairwise (fun a b => b ≠ a) := by
    repeat rw [S_ofList]
    decide +kernel
  simp only [List.pairwise_cons, List.mem_cons, List.not_mem_nil, forall_eq_or_imp, false_imp_iff, implies_true, and_true] at hw
  cases o <;>
    simp only [ROpt.toks, listToks, applyOpt, List.cons_append, List.nil_append, List.append_assoc, regressOptions,
      parseList_strs, hw, if_true, if_false]

theorem regressOptions_opts (env : Env) (path : Bytes) :
    ∀ (opts : List ROpt) (fuel : Nat) (s : St) (rest : List Tok), opts.length < fuel → stops rest →
      regressOptions .regress env path fuel s (opts.flatMap ROpt.toks ++ rest) =
        some (opts.foldl (applyOpt path) s, rest)
  | [], fuel + 1, s, rest, _, h => regressOptions_stop env path fuel s rest h
  | o :: os, fuel + 1, s, rest, hf, h => by
    rw [List.flatMap_cons, List.append_assoc, regressOptions_option, List.foldl_cons]
    exact regressOptions_opts env path os fuel _ rest (Nat.lt_of_succ_lt_succ hf) h

theorem regress_grammar : findGrammarKw .regress (S "regress") =
    some { kw := S "regress", type := S "LIST", fn := S "config_parse_regress", req := true, rep := true,
           pat := false, fun_ := false, early := false, dflt := .none } := by
  repeat rw [S_ofList]
  decide +kernel

def regressEff (s : St) (st : RStmt) : St :=
  findOrCreateExtend (st.opts.foldl (applyOpt st.path) s) (S "regress") [st.path]

theorem regress_accepted (env : Env) (s : St) (st : RStmt) (rest : List Tok) (h : stops rest) :
    parseKeyword .regress env s (S "regress") (.str st.path :: st.opts.flatMap ROpt.toks ++ rest) =
      some (regressEff s st, rest) := by
  rw [parseKeyword_eq regress_grammar rfl .regress rfl]
  simp only [Parser.run, List.cons_append]
  rw [regressOptions_opts env st.path st.opts _ s rest
    (by have := length_le_length_flatMap ROpt.toks (by intro o; cases o <;> simp [ROpt.toks, listToks]) st.opts
        simp only [List.length_append]; omega) h]
  rfl

/-- the value `${name}` sees: that of the first variable of that name -/
def firstVal (s : St) (name : Bytes) : Option Val :=
  (s.vars.find? (fun v => v.name == name)).map (·.val)

def asList : Option Val → List Bytes
  | some (.list l) => l
  | _ => []

/-- the first variable called `name`, if any, is a list -/
def listOrAbsent (s : St) (name : Bytes) : Prop :=
  firstVal s name = none ∨ ∃ l, firstVal s name = some (.list l)

theorem present_eq_isSome (s : St) (n : Bytes) : present s n = (firstVal s n).isSome := by
  rw [Bool.eq_iff_iff]
  simp [present, firstVal]

theorem firstVal_append (s : St) (n name : Bytes) (v : Val) :
    firstVal (append s n v) name = (firstVal s name).or (if n = name then some v else none) := by
  simp only [firstVal, append, List.find?_append, List.find?_cons, List.find?_nil, Bool.beq_eq_decide_eq n name]
  cases s.vars.find? (fun v => v.name == name) <;> by_cases h : n = name <;> simp [h]

/-- what `extendFirst _ _ xs` does to the value it finds -/
def extVal (xs : List Bytes) : Val → Val
  | .list l => .list (l ++ xs)
  | w => w

theorem firstVal_extendFirst (s : St) (n name : Bytes) (xs : List Bytes) :
    firstVal { s with vars := extendFirst s.vars n xs } name = (firstVal s name).map (if n = name then extVal xs else id) := by
  show ((extendFirst s.vars n xs).find? _).map _ = ((s.vars.find? _).map _).map _
  induction s.vars with
  | nil => rfl
  | cons v vs ih =>
    unfold extendFirst
    by_cases hv : v.name = n
    · rw [if_pos (beq_iff_eq.mpr hv)]
      by_cases hn : n = name <;> cases hval : v.val <;> simp [hv, hn, hval, extVal]
    · rw [if_neg (by simpa using hv), List.find?_cons, List.find?_cons]
      cases hn : v.name == name
      · exact ih
      · have : ¬ n = name := fun e => hv (by simpa [e] using hn)  -- `v` is what is found, unchanged
        simp [this]

theorem firstVal_extend (s : St) (n name : Bytes) (xs : List Bytes) :
    firstVal (findOrCreateExtend s n xs) name =
      if n = name then some (extVal xs ((firstVal s n).getD (.list []))) else firstVal s name := by
  have h1 : firstVal (if present s n then s else append s n (.list [])) name =
      (firstVal s name).or (if n = name then some (.list []) else none) := by
    rw [present_eq_isSome]
    by_cases hn : n = name
    · subst hn; cases h : firstVal s n <;> simp [h, firstVal_append]
    · split <;> simp [firstVal_append, hn]
  simp only [findOrCreateExtend, firstVal_extendFirst, h1]
  by_cases hn : n = name
  · subst hn; cases firstVal s n <;> simp
  · simp [hn]

theorem regressName_ne_regress (path suffix : Bytes) : regressName path suffix ≠ S "regress" := by
  intro h
  -- by length: at least 9 bytes against 7
  have := congrArg List.length h
  simp [regressName, S] at this

theorem applyOpt_keeps_regress (path : Bytes) (s : St) (o : ROpt) :
    firstVal (applyOpt path s o) (S "regress") = firstVal s (S "regress") := by
  have hne := regressName_ne_regress path
  have hobj : S "regress-obj" ≠ S "regress" := by rw [S_ofList, S_ofList]; decide
  have hpkg : S "regress-packages" ≠ S "regress" := by rw [S_ofList, S_ofList]; decide
  cases o <;> simp only [applyOpt, firstVal_append, firstVal_extend, hne, hobj, hpkg, if_false, Option.or_none]

theorem foldl_applyOpt_keeps_regress (path : Bytes) (opts : List ROpt) (s : St) :
    firstVal (opts.foldl (applyOpt path) s) (S "regress") = firstVal s (S "regress") :=
  List.foldlRecOn (motive := fun s' => firstVal s' (S "regress") = firstVal s (S "regress")) opts _ rfl
    fun s' h o _ => (applyOpt_keeps_regress path s' o).trans h

theorem regress_fold (env : Env) (stmts : List RStmt) (s : St) (fuel : Nat) (rest : List Tok) (hrest : stops rest) :
    parseLoop .regress env fuel s (stmts.flatMap RStmt.toks ++ rest) =
      parseLoop .regress env (fuel - stmts.length) (stmts.foldl regressEff s) rest :=
  parseLoop_stmts .regress env (fun _ => S "regress") (fun st : RStmt => .str st.path :: st.opts.flatMap ROpt.toks)
    regressEff (fun _ _ => True) (fun s a _ rest _ hstop => ⟨regress_accepted env s a rest hstop, trivial⟩)
    rest hrest stmts s fuel trivial

/-- **the regress statements become the test list, in file order** -/
theorem regress_tokens (env : Env) (stmts : List RStmt) :
    ∀ (s : St) (fuel : Nat), stmts.length < fuel → listOrAbsent s (S "regress") →
      ∃ s', parseLoop .regress env fuel s (stmts.flatMap RStmt.toks ++ [.eof]) = some s' ∧
        asList (firstVal s' (S "regress")) = asList (firstVal s (S "regress")) ++ stmts.map (·.path) ∧
        listOrAbsent s' (S "regress") := by
  intro s fuel hf hl
  refine ⟨_, (regress_fold env stmts s fuel [.eof] trivial).trans (parseLoop_eof (Nat.sub_pos_of_lt hf)), ?_⟩
  refine foldl_done_induction stmts (I := fun done s' =>
    asList (firstVal s' (S "regress")) = asList (firstVal s (S "regress")) ++ done.map (·.path) ∧ listOrAbsent s' (S "regress"))
    (fun done st _ s' _ ⟨h1, hl'⟩ => ?_) ⟨by simp, hl⟩
  have he : firstVal (regressEff s' st) (S "regress") = some (.list (asList (firstVal s' (S "regress")) ++ [st.path])) := by
    rw [regressEff, firstVal_extend, if_pos rfl, foldl_applyOpt_keeps_regress]
    rcases hl' with h | ⟨l, h⟩ <;> rw [h] <;> rfl
  exact ⟨by rw [he, h1]; simp [asList], .inr ⟨_, he⟩⟩

/-- from the empty configuration: `${regress}` is exactly the configured paths -/
theorem regress_list (env : Env) (stmts : List RStmt) :
    ∃ s', parseLoop .regress env (stmts.length + 1) initSt (stmts.flatMap RStmt.toks ++ [.eof]) = some s' ∧
      asList (firstVal s' (S "regress")) = stmts.map (·.path) := by
  rcases regress_tokens env stmts initSt (stmts.length + 1) (by omega) (Or.inl rfl) with ⟨s', h1, h2, _⟩
  exact ⟨s', h1, by simpa [firstVal, initSt, asList] using h2⟩

def exR : List RStmt :=
  [⟨S "bin/ksh", [.root, .quiet]⟩, ⟨S "lib/libc", [.targets [S "one", S "two"], .noParallel]⟩,
   ⟨S "bin/ksh", [.noParallel, .obj [S "o"]]⟩, ⟨S "sys/kern", []⟩]

example : (parseLoop .regress exEnv 9 initSt (exR.flatMap RStmt.toks ++ [.eof])).map
    (fun s => (asList (firstVal s (S "regress")), present s (regressName (S "bin/ksh") (S "parallel")),
      present s (regressName (S "sys/kern") (S "parallel")))) =
    some ([S "bin/ksh", S "lib/libc", S "bin/ksh", S "sys/kern"], true, false) := by
  rw [regress_fold _ _ _ _ [.eof] trivial]
  decide +kernel

end C08
end Robsd
