import Robsd.Lemmas.ArenaInv
/-
  C19: arena allocations stay intact until their scope ends.

  Model: Robsd/Model/Arena.lean (libks/arena.c).  All theorems hold for every
  `Params` satisfying `Params.ok` (sizes that are multiples of the pointer
  size; the values of the compiled code are checked against it on every run),
  every operation sequence — any number of frames, scopes, blocks, any sizes —
  starting from `arena_alloc`.
-/
namespace Robsd
namespace C19
open Arena

/-- the invariant holds in every reachable state -/
theorem inv_run {p : Params} (hp : p.ok) (ops : List Op) : Inv p (run p (init p) ops) :=
  List.foldlRecOn ops _ (inv_init hp) fun _ h op _ => (step_spec hp h op).inv

/-- every live block is pointer aligned and lies behind the frame header -/
theorem aligned {p : Params} (hp : p.ok) (ops : List Op) :
    ∀ b ∈ (run p (init p) ops).blocks, 8 ∣ b.off ∧ p.hdr ≤ b.off :=
  fun b hb => let h := (inv_run hp ops).core.bl_ok b hb; ⟨h.1, h.2.1⟩

/-- a returned pointer is the address of a live block (hence aligned) -/
theorem ptr_live {p : Params} (hp : p.ok) {s : St} (h : Inv p s) (op : Op) (id hh off : Nat)
    (hout : (step p s op).2 = .ptr id hh off) :
    ∃ b ∈ (step p s op).1.blocks, b.id = id ∧ b.h = hh ∧ b.off = off ∧ 8 ∣ off := by
  have hs := step_spec hp h op
  obtain ⟨b, hb, e1, e2, e3⟩ := hs.ptr id hh off hout
  exact ⟨b, hb, e1, e2, e3, e3 ▸ (hs.inv.core.bl_ok b hb).1⟩

/-- two live blocks never share a byte (blocks of different frames are in
    different malloc'd chunks) -/
theorem live_disjoint {p : Params} (hp : p.ok) (ops : List Op) (b c : Block)
    (hb : b ∈ (run p (init p) ops).blocks) (hc : c ∈ (run p (init p) ops).blocks) (hne : b.id ≠ c.id) (hh : b.h = c.h) :
    b.size = 0 ∨ c.size = 0 ∨ b.off + b.size ≤ c.off ∨ c.off + c.size ≤ b.off :=
  (inv_run hp ops).core.disjoint hb hc hne hh

/-- a live block lies inside its frame, below the bump pointer -/
theorem live_in_frame {p : Params} (hp : p.ok) (ops : List Op) :
    ∀ b ∈ (run p (init p) ops).blocks, ∃ f ∈ (run p (init p) ops).frames, f.h = b.h ∧ b.off + b.size ≤ f.len ∧ f.len ≤ f.size := by
  intro b hb
  have hi := (inv_run hp ops).core
  obtain ⟨f, hf, h1, _, h3⟩ := hi.bl_fr b hb
  exact ⟨f, hf, h1, Nat.le_trans (hi.fin_le hb) h3, (hi.fr_ok f hf).2.2.2⟩

/-- the contents of a live block are not changed by any operation that is not
    a write to / realloc of that very block: other allocations, reallocations of
    other blocks (in place or moved), entering and leaving scopes -/
theorem contents_stable {p : Params} (hp : p.ok) (ops : List Op) (op : Op) (b : Block)
    (hb : b ∈ (run p (init p) ops).blocks) (hnt : ¬ targets op b.id) (i : Nat) (hi : i < b.size) :
    (step p (run p (init p) ops) op).1.mem b.h (b.off + i) = (run p (init p) ops).mem b.h (b.off + i) :=
  ((step_spec hp (inv_run hp ops) op).others b hb hnt).1 i hi

/-- ... and the block stays live until its own scope is left -/
theorem survives {p : Params} (hp : p.ok) (ops : List Op) (op : Op) (b : Block)
    (hb : b ∈ (run p (init p) ops).blocks) (hnt : ¬ targets op b.id) :
    b ∈ (step p (run p (init p) ops) op).1.blocks ∨ (op = .leave ∧ b.depth = curDepth (run p (init p) ops)) :=
  ((step_spec hp (inv_run hp ops) op).others b hb hnt).2

/-- reallocation (from the innermost scope) returns a live block of the new
    size whose first `min old new` bytes are the old block's -/
theorem realloc_prefix {p : Params} (hp : p.ok) (ops : List Op) (id old n : Nat) (b : Block)
    (hfb : findBlock (run p (init p) ops).blocks id = some b) (hold : old ≤ b.size)
    (hsc : (run p (init p) ops).scopes ≠ []) :
    ∃ nb ∈ (step p (run p (init p) ops) (.realloc 0 id old n)).1.blocks, nb.id = id ∧ nb.size = n ∧
      (step p (run p (init p) ops) (.realloc 0 id old n)).2 = .ptr id nb.h nb.off ∧
      ∀ i, i < min old n →
        (step p (run p (init p) ops) (.realloc 0 id old n)).1.mem nb.h (nb.off + i) = (run p (init p) ops).mem b.h (b.off + i) := by
  cases (findBlock_some hfb).2
  exact (realloc_ok hp (inv_run hp ops) n hfb hold (scopeCheck_eq_none_iff.mpr ⟨hsc, rfl⟩)).block

/-- leaving a scope: exactly that scope's blocks go, its cleanups run (newest
    first), the bump pointer returns to where the scope was entered — the
    `: 0` arm of `arena_scope_leave` is never taken -/
theorem leave_exact {p : Params} (hp : p.ok) (ops : List Op) (sc : Scope) (rest : List Scope)
    (hsc : (run p (init p) ops).scopes = sc :: rest) :
    let s := run p (init p) ops
    let s' := (step p s .leave).1
    s'.blocks = s.blocks.filter (fun b => b.depth != sc.depth) ∧ s'.ran = s.ran ++ sc.cleanups ∧ s'.scopes = rest ∧
    s'.mem = s.mem ∧
    ∃ f post, s.frames.dropWhile (fun g => g.h != sc.h) = f :: post ∧ sc.len ≤ f.len ∧
      s'.frames = { f with len := sc.len } :: post := by
  intro s s'
  obtain ⟨_, f, post, hdrop, hlen, hstep⟩ := step_leave_spec (inv_run hp ops).core hsc
  rw [show s' = _ from congrArg Prod.fst hstep]
  exact ⟨rfl, rfl, rfl, rfl, f, post, hdrop, hlen, rfl⟩

/-- a cleanup never runs twice, and one that ran is no longer pending -/
theorem cleanups_once {p : Params} (hp : p.ok) (ops : List Op) :
    ((run p (init p) ops).ran ++ pending (run p (init p) ops)).Nodup :=
  (inv_run hp ops).cl_nodup

/-- block ids (handles) are unique among live blocks -/
theorem ids_unique {p : Params} (hp : p.ok) (ops : List Op) (b c : Block)
    (hb : b ∈ (run p (init p) ops).blocks) (hc : c ∈ (run p (init p) ops).blocks) (h : b.id = c.id) : b = c :=
  block_unique (inv_run hp ops).core.bl_ord hb hc h

/-- allocating from an outer scope while a nested one is open traps and changes nothing -/
theorem outer_alloc_trapped (p : Params) (s : St) (k : Nat) (hk : k ≠ 0) (hlt : k < s.scopes.length) :
    (∀ n, step p s (.malloc k n) = (s, .trap)) ∧ (∀ n, step p s (.calloc k n) = (s, .trap)) ∧
    (∀ bs, step p s (.str k bs) = (s, .trap)) ∧ step p s (.cleanup k) = (s, .trap) ∧
    (∀ id old n b, findBlock s.blocks id = some b → old ≤ b.size → step p s (.realloc k id old n) = (s, .trap)) := by
  have hck : scopeCheck s k = some .trap := by
    unfold scopeCheck
    rw [if_neg (Nat.not_le.mpr hlt), if_pos hk]
  refine ⟨?_, ?_, ?_, ?_, ?_⟩
  · intro n; simp only [step, hck]
  · intro n; simp only [step, hck]
  · intro bs; simp only [step, hck]
  · simp only [step, hck]
  · intro id old n b hfb hold
    simp only [step, hfb, if_neg (Nat.not_lt.mpr hold), hck]

/-- `arena_malloc` and friends never reach `err(1)`: a frame that is large enough is always found -/
theorem never_fails {p : Params} (hp : p.ok) (ops : List Op) (op : Op) :
    (step p (run p (init p) ops) op).2 ≠ .fail :=
  (step_spec hp (inv_run hp ops) op).ok

def p0 : Params := { hdr := 32, fsz := 65536, P := 8, csz := 24 }

example : p0.ok := by unfold Params.ok p0; decide

/-- R10 (fixed): growing a block from the outer scope while a nested scope is open -/
example : (step p0 (run p0 (init p0) [.enter, .malloc 0 8, .enter]) (.realloc 1 0 8 64)).2 = .trap := by decide +kernel

example : (run p0 (init p0) [.enter, .malloc 0 10, .enter, .realloc 0 0 10 100, .cleanup 0, .leave]).ran = [1] := by decide +kernel
example : ((run p0 (init p0) [.enter, .malloc 0 10, .malloc 0 70000, .enter, .malloc 0 3, .leave]).blocks.map (fun b => (b.h, b.off, b.size)))
    = [(1, 40, 70000), (0, 40, 10)] := by decide +kernel

end C19
end Robsd
