import Robsd.Model.StepFile
/- Joining with a separator (`intercalateB`): `splitOn` inverts it, and interpolating references
   joined by a separator (the template step.c builds) puts the values in their places. -/
namespace Robsd
namespace StepFile
open Interp

theorem splitAux_append {c : UInt8} {f : Bytes} (rest cur : Bytes) (h : c ∉ f) :
    splitAux c (f ++ rest) cur = splitAux c rest (cur ++ f) := by
  induction f generalizing cur with
  | nil => simp
  | cons x xs ih =>
    rw [List.mem_cons, not_or] at h
    simp [splitAux, Ne.symm h.1, ih _ h.2]

theorem splitOn_of_not_mem {c : UInt8} {f : Bytes} (h : c ∉ f) : splitOn c f = [f] := by
  simpa [splitOn, splitAux] using splitAux_append [] [] h

theorem splitOn_append_of_not_mem {c : UInt8} {f : Bytes} (rest : Bytes) (h : c ∉ f) :
    splitOn c (f ++ c :: rest) = f :: splitOn c rest := by
  simp [splitOn, splitAux_append _ [] h, splitAux]

theorem splitOn_intercalate {c : UInt8} {xs : List Bytes} (hne : xs ≠ [])
    (h : ∀ x ∈ xs, c ∉ x) : splitOn c (intercalateB c xs) = xs := by
  induction xs with
  | nil => exact absurd rfl hne
  | cons x rest ih =>
    cases rest with
    | nil => exact splitOn_of_not_mem (h x (by simp))
    | cons y rest' =>
      rw [intercalateB, splitOn_append_of_not_mem _ (h x (by simp)),
        ih (by simp) (fun z hz => h z (by simp [hz]))]

theorem intercalateB_not_mem {c sep : UInt8} {xs : List Bytes} (hsep : c ≠ sep)
    (h : ∀ x ∈ xs, c ∉ x) : c ∉ intercalateB sep xs := by
  induction xs with
  | nil => simp [intercalateB]
  | cons x rest ih =>
    cases rest with
    | nil => simpa [intercalateB] using h x (by simp)
    | cons y rest' =>
      simp only [intercalateB, List.mem_append, List.mem_cons, not_or]
      exact ⟨h x (by simp), hsep, ih (fun z hz => h z (by simp [hz]))⟩

theorem splitOn_lines {ls : List Bytes} (h : ∀ l ∈ ls, NL ∉ l) :
    splitOn NL (ls.flatMap (fun l => l ++ [NL])) = ls ++ [[]] := by
  induction ls with
  | nil => rfl
  | cons l rest ih =>
    rw [List.flatMap_cons, List.append_assoc, List.singleton_append,
      splitOn_append_of_not_mem _ (h l (by simp)), ih (fun z hz => h z (by simp [hz]))]
    rfl

/-- `d + 2`: one level for the template, one for the value, which has no `$` (`hv`). -/
theorem interp_ref_cons {lookup : Lookup} {d : Nat} {pre n : Bytes} (t : Bytes)
    (hp : DOLLAR ∉ pre) (h2 : RBRACE ∉ n) (h3 : n ≠ [])
    (hv : ∀ v, lookup n = some v → DOLLAR ∉ v) :
    interp lookup false (d + 2) (pre ++ ([DOLLAR, LBRACE] ++ n ++ [RBRACE]) ++ t) =
      match lookup n with
      | none => .error (.unknown n)
      | some v =>
        match interp lookup false (d + 2) t with
        | .ok b => .ok (pre ++ v ++ b)
        | .error e => .error e := by
  have e : pre ++ ([DOLLAR, LBRACE] ++ n ++ [RBRACE]) ++ t = pre ++ DOLLAR :: LBRACE :: n ++ RBRACE :: t := by
    simp
  rw [e, interp, inner_eq, scan_eq_ref_iff.mpr ⟨rfl, hp, h2, h3⟩]
  dsimp only
  cases hl : lookup n with
  | none => rfl
  | some v =>
    simp only [interp_of_lit (hv v hl)]
    rfl

/-- The template `step_serialize` builds, `pre ${n₁} sep ${n₂} sep … tail`, with values that have no `$`. -/
theorem interp_joined_refs {α : Type} (name : α → Bytes) (items : List α) (pre : Bytes) {lookup : Lookup} {d : Nat}
    {sep : UInt8} {tail : Bytes} (hsep : sep ≠ DOLLAR) (hp : DOLLAR ∉ pre) (ht : DOLLAR ∉ tail)
    (hn : ∀ a ∈ items, RBRACE ∉ name a ∧ name a ≠ [])
    (hv : ∀ a ∈ items, ∀ v, lookup (name a) = some v → DOLLAR ∉ v) :
    interp lookup false (d + 2)
        (pre ++ intercalateB sep (items.map fun a => [DOLLAR, LBRACE] ++ name a ++ [RBRACE]) ++ tail) =
      match items.find? (fun a => (lookup (name a)).isNone) with
      | some a => .error (.unknown (name a))
      | none => .ok (pre ++ intercalateB sep (items.map fun a => (lookup (name a)).getD []) ++ tail) := by
  induction items generalizing pre with
  | nil => exact interp_of_lit (by simp [intercalateB, hp, ht])
  | cons a rest ih =>
    obtain ⟨h2, h3⟩ := hn a (by simp)
    have hva := hv a (by simp)
    cases rest with
    | nil =>
      simp only [List.map_cons, List.map_nil, intercalateB, List.find?_cons, List.find?_nil]
      rw [interp_ref_cons tail hp h2 h3 hva, interp_of_lit ht]
      cases lookup (name a) <;> rfl
    | cons b rest =>
      have e : ∀ (f : α → Bytes), pre ++ intercalateB sep ((a :: b :: rest).map f) ++ tail =
          pre ++ f a ++ ([sep] ++ intercalateB sep ((b :: rest).map f) ++ tail) := by
        intro f; simp [intercalateB]
      rw [e, e, interp_ref_cons _ hp h2 h3 hva,
        ih [sep] (by simpa using hsep.symm) (fun x hx => hn x (by simp [hx])) (fun x hx => hv x (by simp [hx])),
        List.find?_cons (a := a)]
      cases lookup (name a) with
      | none => rfl
      | some v => cases List.find? (fun a => (lookup (name a)).isNone) (b :: rest) <;> rfl

end StepFile
end Robsd
