import Robsd.Lemmas.StepRow
import Robsd.Lemmas.InsertSort
/- `robsd-step -W` keeps rows well formed; whole step files through serialiser and parser. -/
namespace Robsd
namespace StepFile
open Bytes Gen

theorem representable_iff {fd : FieldDef} {val : Bytes} (hn : (0 : UInt8) ∉ val) :
    representable fd val = true ↔ Clean val ∧ (fd.optional = true ∨ val ≠ []) := by
  simp [representable, Clean, hn, and_assoc]

theorem setField_some {row row' : Row} {name val : Bytes} (h : setField row name val = some row') :
    ∃ fd v, fieldDef name = some fd ∧ row' = row.set fd.index v ∧
      (fd.type = .string ∧ v = .str val ∨
       fd.type = .integer ∧ ∃ i, strtonum val i64Min i64Max = some i ∧ v = .int i) := by
  revert h
  fun_cases setField row name val
  case case2 fd hfd hty => rintro ⟨⟩; exact ⟨fd, _, hfd, rfl, .inl ⟨hty, rfl⟩⟩  -- a string field
  case case4 fd hfd hty i hi => rintro ⟨⟩; exact ⟨fd, _, hfd, rfl, .inr ⟨hty, i, hi, rfl⟩⟩  -- an integer in range
  all_goals nofun

theorem setKeyval_draft {r : Row} (hr : RowDraft r) {kv : Bytes} (hn : (0 : UInt8) ∉ kv) {r' : Row}
    (h : setKeyval r kv = some r') : RowDraft r' := by
  revert h
  fun_cases setKeyval r kv
  case case4 key val hsplit fd hfd hrep =>  -- `key=val`, a known key, a value the file can carry
    intro h
    obtain ⟨rfl, -⟩ := splitAt1_eq_some_iff.mp hsplit
    have hnv : (0 : UInt8) ∉ val := fun hm => hn (by simp [hm])
    obtain ⟨fd', v, hfd', rfl, hv⟩ := setField_some h
    cases hfd.symm.trans hfd'
    refine set_draft hr (List.mem_of_find?_eq_some hfd) ?_
    rcases hv with ⟨ht, rfl⟩ | ⟨ht, i, hs, rfl⟩
    · exact ⟨ht, (representable_iff hnv).mp (by simpa [ht] using hrep)⟩
    · exact ⟨ht, strtonum_inrange hs⟩
  all_goals nofun

theorem setKeyvals_draft {r : Row} (hr : RowDraft r) {kvs : List Bytes} (hn : ∀ kv ∈ kvs, (0 : UInt8) ∉ kv) {r' : Row}
    (h : setKeyvals r kvs = some r') : RowDraft r' := by
  fun_induction setKeyvals r kvs with
  | case1 => cases h; exact hr
  | case2 => cases h  -- an assignment is rejected
  | case3 r kv kvs r1 h1 ih =>
    exact ih (setKeyval_draft hr (hn kv (by simp)) h1) (fun k hk => hn k (by simp [hk])) h

theorem applyWrite_spec {rows rows' : List Row} {id : Int} {kvs : List Bytes}
    (h : applyWrite rows id kvs = some rows') :
    (∀ r ∈ rows, rowId r ≠ some id → r ∈ rows') ∧
    ∃ base r', (base ∈ rows ∨ base = freshRow.set stepIdx (.int id)) ∧
      setKeyvals base kvs = some r' ∧ r' ∈ rows' ∧ ∀ x ∈ rows', x ∈ rows ∨ x = r' := by
  revert h
  fun_cases applyWrite rows id kvs
  case case2 k hk r' hsk =>  -- row `k` has the id
    rintro ⟨⟩
    obtain ⟨hklt, hkp, _⟩ := List.findIdx?_eq_some_iff_getElem.mp hk
    rw [List.getD_eq_getElem?_getD, List.getElem?_eq_getElem hklt, Option.getD_some] at hsk
    refine ⟨fun r hr hne => ?_, _, r', Or.inl (List.getElem_mem hklt), hsk, List.mem_set hklt r',
      fun x hx => List.mem_or_eq_of_mem_set hx⟩
    obtain ⟨i, hi, rfl⟩ := List.mem_iff_getElem.mp hr
    have hik : k ≠ i := fun e => hne (by subst e; simpa using hkp)
    exact List.mem_iff_getElem.mpr ⟨i, by simp [hi], by rw [List.getElem_set_ne hik]⟩
  case case5 r0 h0 r' hsk =>  -- no row has the id: a fresh row is appended
    rintro ⟨⟩
    cases initRow_eq.symm.trans h0
    exact ⟨fun r hr _ => by simp [hr], _, r', Or.inr rfl, hsk, by simp, fun x hx => by simpa using hx⟩
  all_goals nofun

theorem applyWrite_draft {rows rows' : List Row} {id : Int} {kvs : List Bytes} (hrows : ∀ r ∈ rows, RowDraft r)
    (hid : InI64 id) (hn : ∀ kv ∈ kvs, (0 : UInt8) ∉ kv) (h : applyWrite rows id kvs = some rows') :
    ∀ r ∈ rows', RowDraft r := by
  obtain ⟨_, base, r', hb, hsk, _, hfr⟩ := applyWrite_spec h
  have hbase : RowDraft base := by
    rcases hb with hb | rfl
    · exact hrows base hb
    · have hfresh : RowDraft freshRow := ⟨rfl, by decide⟩
      -- `stepIdx` reduces to the index of the table's first field
      exact set_draft hfresh (List.mem_cons_self : _ ∈ stepFields) ⟨rfl, hid⟩
  intro r hr
  rcases hfr r hr with hr | rfl
  · exact hrows r hr
  · exact setKeyvals_draft hbase hn hsk

theorem writeCmd_cases (file : Bytes) (id : Int) (kvs : List Bytes) (flush : Flush) :
    writeCmd file id kvs flush = (1, file) ∨
    ∃ rows rows' out,
      writeCmd file id kvs flush = (match flush with | .ok => (0, out) | .failed left => (1, left)) ∧
      parseFile file = some rows ∧ applyWrite rows id kvs = some rows' ∧ serializeFile rows' = some out ∧
      -intMax ≤ id ∧ id ≤ intMax := by
  fun_cases writeCmd file id kvs flush
  -- the two outcomes of the flush
  case case5 hid rows hp rows' ha out hs | case6 hid rows hp rows' ha out hs _ =>
    simp only [not_or, Int.not_lt] at hid
    exact .inr ⟨rows, rows', out, rfl, hp, ha, hs, hid.2.1, hid.2.2.1⟩
  all_goals exact .inl rfl  -- bad id or nothing to assign; no parse; an assignment rejected; no serialisation

theorem sortRows_eq : sortRows = InsertSort.sort (fun r x => decide (rowKey r ≤ rowKey x)) := by
  have : insertRow = InsertSort.insert (fun r x => decide (rowKey r ≤ rowKey x)) := by
    funext r l
    induction l with
    | nil => rfl
    | cons y ys ih => simp [insertRow, InsertSort.insert, ih]
  funext rs
  rw [sortRows, this, InsertSort.sort]

theorem sortRows_perm (rs : List Row) : (sortRows rs).Perm rs := sortRows_eq ▸ InsertSort.sort_perm rs

def headerLine : Bytes := intercalateB COMMA names

theorem parseHeader_ok : parseHeader headerLine = some names := by decide +kernel
theorem headerLine_no_nl_nul : NL ∉ headerLine ∧ (0 : UInt8) ∉ headerLine := by decide +kernel

/-- the text of a file holding `rows` (already in file order) -/
def fileOf (rows : List Row) : Bytes := header ++ rows.flatMap (fun r => lineOf r ++ [NL])

theorem lineOf_no_nl_nul {r : Row} (hp : RowDraft r) : NL ∉ lineOf r ∧ (0 : UInt8) ∉ lineOf r :=
  ⟨intercalateB_not_mem (by decide) fun x hx => (rendered_clean hp x hx).2.1,
    intercalateB_not_mem (by decide) fun x hx => (rendered_clean hp x hx).2.2.2⟩

theorem parseRows_ok {rows : List Row} (h : ∀ r ∈ rows, RowOk r) :
    parseRows names (rows.map lineOf) = some rows := by
  induction rows with
  | nil => rfl
  | cons r rs ih =>
    simp only [List.map_cons, parseRows, parseRow_ok (h r (by simp)), ih (fun x hx => h x (by simp [hx]))]

theorem fileLines_terminated {ls : List Bytes} (h : ∀ l ∈ ls, NL ∉ l ∧ (0 : UInt8) ∉ l) :
    fileLines (ls.flatMap (fun l => l ++ [NL])) = some ls := by
  have hnul : (0 : UInt8) ∉ ls.flatMap (fun l => l ++ [NL]) := by
    intro hm
    simp only [List.mem_flatMap, List.mem_append, List.mem_singleton] at hm
    obtain ⟨l, hl, hm | hm⟩ := hm
    · exact (h l hl).2 hm
    · exact absurd hm (by decide)
  unfold fileLines visible
  rw [cstr_eq_self_of_no_nul hnul]
  cases ls with
  | nil => rfl
  | cons l ls =>
    rw [if_neg (by simp), splitOn_lines (fun l hl => (h l hl).1)]
    simp only [List.getLast?_concat, List.dropLast_concat, if_true]

theorem parseFile_fileOf {rows : List Row} (h : ∀ r ∈ rows, RowOk r) :
    parseFile (fileOf rows) = some rows := by
  have hshape : fileOf rows = (headerLine :: rows.map lineOf).flatMap (fun l => l ++ [NL]) := by
    simp [fileOf, header, headerLine, names, List.flatMap_cons, List.flatMap_map]
  have hline : ∀ l ∈ headerLine :: rows.map lineOf, NL ∉ l ∧ (0 : UInt8) ∉ l := by
    intro l hl
    simp only [List.mem_cons, List.mem_map] at hl
    rcases hl with rfl | ⟨r, hr, rfl⟩
    · exact headerLine_no_nl_nul
    · exact lineOf_no_nl_nul (h r hr).draft
  simp only [parseFile, hshape, fileLines_terminated hline, parseHeader_ok, parseRows_ok h]

theorem serializeRows_cons (r : Row) (rs : List Row) :
    serializeRows (r :: rs) = (serializeRow r).bind fun a => (serializeRows rs).map (a ++ ·) := by
  rw [serializeRows]
  cases serializeRow r <;> cases serializeRows rs <;> rfl

theorem serializeRows_iff {rows : List Row} (h : ∀ r ∈ rows, RowDraft r) {b : Bytes} :
    serializeRows rows = some b ↔
      (∀ r ∈ rows, RowOk r) ∧ b = rows.flatMap (fun r => lineOf r ++ [NL]) := by
  induction rows generalizing b with
  | nil => simp [serializeRows, eq_comm]
  | cons r rs ih =>
    rw [List.forall_mem_cons] at h
    simp only [serializeRows_cons, Option.bind_eq_some_iff, Option.map_eq_some_iff, serializeRow_iff h.1, ih h.2,
      List.forall_mem_cons, List.flatMap_cons]
    constructor
    · rintro ⟨_, ⟨hok, rfl⟩, _, ⟨hall, rfl⟩, rfl⟩
      exact ⟨⟨hok, hall⟩, rfl⟩
    · rintro ⟨⟨hok, hall⟩, rfl⟩
      exact ⟨_, ⟨hok, rfl⟩, _, ⟨hall, rfl⟩, rfl⟩

theorem serializeFile_iff {rows : List Row} (h : ∀ r ∈ rows, RowDraft r) {out : Bytes} :
    serializeFile rows = some out ↔ (∀ r ∈ rows, RowOk r) ∧ out = fileOf (sortRows rows) := by
  have e : serializeFile rows = (serializeRows (sortRows rows)).map (header ++ ·) := by
    rw [serializeFile]
    cases serializeRows (sortRows rows) <;> rfl
  simp only [e, Option.map_eq_some_iff, serializeRows_iff (fun r hr => h r ((sortRows_perm _).subset hr)),
    (sortRows_perm _).mem_iff, fileOf]
  constructor
  · rintro ⟨_, ⟨hall, rfl⟩, rfl⟩
    exact ⟨hall, rfl⟩
  · rintro ⟨hall, rfl⟩
    exact ⟨_, ⟨hall, rfl⟩, rfl⟩

end StepFile
end Robsd
