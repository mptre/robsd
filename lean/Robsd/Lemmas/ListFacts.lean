/- General facts about lists that core does not state; nothing here mentions the model. -/
namespace Robsd

theorem pairwise_or_of_ne {α : Type} {R : α → α → Prop} {l : List α} (hs : l.Pairwise R) :
    ∀ a ∈ l, ∀ b ∈ l, a ≠ b → R a b ∨ R b a :=
  List.Pairwise.forall_of_forall_of_flip (fun _ _ h => absurd rfl h) (hs.imp fun h _ => .inl h)
    (hs.imp fun h _ => .inr h)

theorem eq_of_key_eq {α β : Type} {R : α → α → Prop} {key : α → β} {l : List α} (hs : l.Pairwise R)
    (hR : ∀ a b, R a b → key a ≠ key b) : ∀ a ∈ l, ∀ b ∈ l, key a = key b → a = b :=
  List.Pairwise.forall_of_forall_of_flip (fun _ _ _ => rfl) (hs.imp fun h e => absurd e (hR _ _ h))
    (hs.imp fun h e => absurd e.symm (hR _ _ h))

theorem inj_of_nodup_map {α β : Type} {f : α → β} {l : List α} (h : (l.map f).Nodup) :
    ∀ a ∈ l, ∀ b ∈ l, f a = f b → a = b :=
  eq_of_key_eq (List.pairwise_map.mp h) fun _ _ h => h

theorem not_mem_of_nodup_append_cons {α : Type} {l₁ l₂ : List α} {a : α} (h : (l₁ ++ a :: l₂).Nodup) : a ∉ l₁ :=
  fun hm => (List.nodup_append.mp h).2.2 a hm a List.mem_cons_self rfl

theorem eq_singleton_of_head?_eq_getLast? {α : Type} {l : List α} {a : α} (hn : l.Nodup)
    (h1 : l.head? = some a) (h2 : l.getLast? = some a) : l = [a] := by
  obtain ⟨ys, rfl⟩ := List.head?_eq_some_iff.mp h1
  cases ys with
  | nil => rfl
  | cons y ys =>
    rw [List.getLast?_cons_cons] at h2
    exact absurd (List.mem_of_getLast? h2) (List.nodup_cons.mp hn).1

theorem nodup_map_concat {α β : Type} {f : α → β} {l : List α} {a : α} :
    ((l ++ [a]).map f).Nodup ↔ (l.map f).Nodup ∧ ∀ b ∈ l, f b ≠ f a := by
  simp [List.nodup_append]

theorem find?_eq_of_unique {α : Type} {l : List α} {p : α → Bool} {a : α} (ha : a ∈ l) (hp : p a)
    (hu : ∀ b ∈ l, p b → b = a) : l.find? p = some a := by
  cases hf : l.find? p with
  | none => exact absurd hp (List.find?_eq_none.mp hf a ha)
  | some b => rw [hu b (List.mem_of_find?_eq_some hf) (List.find?_some hf)]

theorem find?_eq_of_nodup_map {α β : Type} {f : α → β} {l : List α} (h : (l.map f).Nodup) {a : α} (ha : a ∈ l)
    {p : α → Bool} (hp : ∀ b, p b = true ↔ f b = f a) : l.find? p = some a :=
  find?_eq_of_unique ha ((hp a).mpr rfl) fun b hb e => inj_of_nodup_map h b hb a ha ((hp b).mp e)

theorem find?_key_some {α β : Type} [BEq β] [LawfulBEq β] {key : α → β} {l : List α} {k : β} {a : α}
    (h : l.find? (fun x => key x == k) = some a) : a ∈ l ∧ key a = k :=
  ⟨List.mem_of_find?_eq_some h, by simpa using List.find?_some h⟩

/-- A fold keeps an invariant that names the part of the list already consumed; the step may use
    where in `l` it stands (for `x ∉ done` from `l.Nodup`, say). -/
theorem foldl_done_induction {α σ : Type} {f : σ → α → σ} {I : List α → σ → Prop} (l : List α)
    (hstep : ∀ done x post s, l = done ++ x :: post → I done s → I (done ++ [x]) (f s x))
    {s : σ} (h0 : I [] s) : I l (l.foldl f s) := by
  suffices ∀ rest done s, l = done ++ rest → I done s → I l (rest.foldl f s) from this l [] s rfl h0
  intro rest
  induction rest with
  | nil => intro done s e h; rw [e, List.append_nil]; exact h
  | cons x xs ih =>
    intro done s e h
    exact ih (done ++ [x]) _ (by rw [e, List.append_cons]) (hstep done x xs s e h)

/- `∀ P, P <+: l → R P`, a fact about every prefix of `l`, proved along `l`.  `R` takes the prefix itself, so
   a goal of this form unifies with the three rules as it stands. -/

theorem forall_prefix_nil {α : Type} {R : List α → Prop} (h0 : R []) : ∀ P, P <+: [] → R P :=
  fun _ hP => List.prefix_nil.mp hP ▸ h0

theorem forall_prefix_cons {α : Type} {R : List α → Prop} {w : α} {ws : List α} (h0 : R [])
    (h : ∀ P, P <+: ws → R (w :: P)) : ∀ P, P <+: w :: ws → R P := by
  intro _ hP
  rcases List.prefix_cons_iff.mp hP with rfl | ⟨t, rfl, ht⟩
  · exact h0
  · exact h t ht

theorem forall_prefix_append {α : Type} {R : List α → Prop} {a b : List α} (ha : ∀ P, P <+: a → R P)
    (hb : ∀ P, P <+: b → R (a ++ P)) : ∀ P, P <+: a ++ b → R P := by
  induction a generalizing R with
  | nil => exact hb
  | cons w a ih =>
    exact forall_prefix_cons (ha [] List.nil_prefix)
      (ih (fun P hP => ha (w :: P) (List.cons_prefix_cons.mpr ⟨rfl, hP⟩)) hb)

/-- "some `P` in the list with only `Q` before it", one element at a time for an induction over the list -/
theorem exists_split_cons {α : Type} (P Q : α → Prop) (a : α) (l : List α) :
    (∃ pre s post, a :: l = pre ++ s :: post ∧ P s ∧ ∀ t ∈ pre, Q t) ↔
      P a ∨ Q a ∧ ∃ pre s post, l = pre ++ s :: post ∧ P s ∧ ∀ t ∈ pre, Q t := by
  constructor
  · rintro ⟨pre, s, post, e, hP, hQ⟩
    cases pre with
    | nil => cases e; exact .inl hP
    | cons b pre =>
      cases e
      exact .inr ⟨hQ _ (List.mem_cons_self ..), pre, s, post, rfl, hP, fun t ht => hQ t (List.mem_cons_of_mem _ ht)⟩
  · rintro (hP | ⟨hQ, pre, s, post, rfl, hP, hpre⟩)
    · exact ⟨[], a, l, rfl, hP, nofun⟩
    · exact ⟨a :: pre, s, post, rfl, hP, List.forall_mem_cons.mpr ⟨hQ, hpre⟩⟩

/-- an occurrence of `y` in `l ++ [x]` is the final `x` or lies in `l` -/
theorem snoc_eq_append_cons {α : Type} {l pre post : List α} {x y : α} (h : l ++ [x] = pre ++ y :: post) :
    (y = x ∧ pre = l ∧ post = []) ∨ ∃ post', l = pre ++ y :: post' := by
  rcases List.eq_nil_or_concat post with rfl | ⟨post', z, rfl⟩
  · obtain ⟨h1, h2⟩ := List.append_inj' h rfl
    exact Or.inl ⟨(List.singleton_inj.mp h2).symm, h1.symm, rfl⟩
  · rw [List.concat_eq_append, ← List.cons_append, ← List.append_assoc] at h
    exact Or.inr ⟨post', (List.append_inj' h rfl).1⟩

theorem filter_ne_filter_not_contains {α : Type} [BEq α] (l : List α) (j : α) (g : List α) :
    (l.filter (· != j)).filter (fun x => !g.contains x) = l.filter (fun x => !(j :: g).contains x) := by
  rw [List.filter_filter]
  exact List.filter_congr fun x _ => by rw [List.contains_cons, Bool.not_or, Bool.and_comm]; rfl

theorem filter_not_contains_self {α : Type} [BEq α] [LawfulBEq α] (l : List α) :
    l.filter (fun x => !l.contains x) = [] :=
  List.filter_eq_nil_iff.mpr fun a ha => by simp [ha]

theorem filter_contains_of_sublist {α : Type} [BEq α] [LawfulBEq α] {l r : List α} (hs : r.Sublist l)
    (hnd : l.Nodup) : l.filter (fun x => r.contains x) = r := by
  induction hs with
  | slnil => rfl
  | @cons r l a hs ih =>
    rw [List.nodup_cons] at hnd
    have : r.contains a = false := by simpa using fun h => hnd.1 (hs.subset h)
    rw [List.filter_cons, this, if_neg Bool.false_ne_true, ih hnd.2]
  | @cons_cons r l a hs ih =>
    rw [List.nodup_cons] at hnd
    have : ∀ x ∈ l, (a :: r).contains x = r.contains x := fun x hx => by
      have : (x == a) = false := by simpa using fun (e : x = a) => hnd.1 (e ▸ hx)
      rw [List.contains_cons, this, Bool.false_or]
    rw [List.filter_cons, List.contains_cons, BEq.rfl, Bool.true_or, if_pos rfl, List.filter_congr this, ih hnd.2]

theorem filter3_perm {α : Type} (p q : α → Bool) (l : List α) :
    (l.filter p ++ l.filter (fun a => !p a && !q a) ++ l.filter (fun a => !p a && q a)).Perm l := by
  have h := (List.filter_append_perm (fun a => !q a) l).filter (fun a => !p a)
  simp only [List.filter_append, List.filter_filter, Bool.not_not] at h
  rw [List.append_assoc]
  exact (h.append_left _).trans (List.filter_append_perm p l)

theorem length_le_length_flatMap {α β : Type} (f : α → List β) (hf : ∀ a, f a ≠ []) :
    ∀ l : List α, l.length ≤ (l.flatMap f).length
  | [] => Nat.le_refl _
  | a :: l => by
    have := length_le_length_flatMap f hf l
    have := List.length_pos_iff.mpr (hf a)
    simp only [List.flatMap_cons, List.length_append, List.length_cons]; omega

theorem takeWhile_append_stop {α : Type} (p : α → Bool) (a b : List α) (ha : ∀ x ∈ a, p x = true)
    (hb : ∀ x ∈ b.head?, p x = false) :
    (a ++ b).takeWhile p = a ∧ (a ++ b).dropWhile p = b := by
  rw [List.takeWhile_append_of_pos ha, List.dropWhile_append_of_pos ha]
  cases b with
  | nil => simp
  | cons y ys => simp [hb y rfl]

end Robsd
