import Robsd.Model.RegressHtml
import Robsd.Lemmas.BytesOrder
import Robsd.Lemmas.ListFacts
/-
  `sortBy` is the insertion sort of Lemmas/InsertSort, and `suiteLt` an order it sorts by.

  The parse fold is followed through what a suite list stands for: its names and
  the matrix `cellAt`.  Every level of the fold (`addRun`, `parseRecs`, `parseInv`)
  only fills cells that are still empty, so each is described as "the matrix
  before `.or` what this level contributes".

  `dropTrailingNone`, by which a row is cut behind its last run, keeps every entry as `getD` reads it.
-/
namespace Robsd
namespace RegressHtml
open Bytes

theorem sortBy_eq {α : Type} (lt : α → α → Bool) : sortBy lt = InsertSort.sort lt := by
  have : insertBy lt = InsertSort.insert lt := by
    funext x l
    induction l with
    | nil => rfl
    | cons y ys ih => simp [insertBy, InsertSort.insert, ih]
  funext l
  rw [sortBy, this, InsertSort.sort]

theorem sortBy_perm {α : Type} {lt : α → α → Bool} (l : List α) : (sortBy lt l).Perm l :=
  sortBy_eq lt ▸ InsertSort.sort_perm l

/-- `suite_cmp` of regress-html.c -/
theorem suiteLt_iff (a b : Suite) :
    suiteLt a b = true ↔ b.fail < a.fail ∨ (a.fail = b.fail ∧ bytesLt a.name b.name = true) := by
  simp [suiteLt]

theorem suiteLt_trans (a b c : Suite) (h1 : suiteLt a b = true) (h2 : suiteLt b c = true) : suiteLt a c = true := by
  rw [suiteLt_iff] at *
  rcases h1 with h1 | ⟨e1, l1⟩ <;> rcases h2 with h2 | ⟨e2, l2⟩
  · exact Or.inl (Nat.lt_trans h2 h1)
  · exact Or.inl (e2 ▸ h1)
  · exact Or.inl (e1 ▸ h2)
  · exact Or.inr ⟨e1.trans e2, bytesLt_trans l1 l2⟩

theorem suiteLt_asymm (a b : Suite) (h : suiteLt a b = true) : suiteLt b a = false := by
  rw [Bool.eq_false_iff, Ne, suiteLt_iff]
  rw [suiteLt_iff] at h
  rintro (h' | ⟨e', l'⟩) <;> rcases h with h | ⟨e, l⟩
  · exact Nat.lt_asymm h h'
  · exact Nat.ne_of_lt h' e
  · exact Nat.ne_of_lt h e'
  · rw [bytesLt_asymm l] at l'
    cases l'

theorem sortBy_suiteLt_sorted (l : List Suite) : (sortBy suiteLt l).Pairwise (fun a b => suiteLt b a = false) :=
  sortBy_eq suiteLt ▸ InsertSort.sort_pairwise (pos := suiteLt_asymm) (neg := fun _ _ h => h)
    (pos_trans := fun x y z hxy hzy =>
      Bool.eq_false_iff.mpr fun hzx => Bool.eq_false_iff.mp hzy (suiteLt_trans z x y hzx hxy)) l

def lookup (suites : List Suite) (nm : Bytes) : Option Suite := suites.find? (fun s => decide (s.name = nm))

theorem lookup_cons (s : Suite) (ss : List Suite) (nm : Bytes) :
    lookup (s :: ss) nm = if s.name = nm then some s else lookup ss nm := by
  by_cases h : s.name = nm <;> simp [lookup, h]

theorem lookup_some_mem {suites : List Suite} {nm : Bytes} {s : Suite} (h : lookup suites nm = some s) :
    s ∈ suites ∧ s.name = nm :=
  ⟨List.mem_of_find?_eq_some h, of_decide_eq_true (List.find?_some h :)⟩

theorem mem_lookup {suites : List Suite} (hnd : (suites.map (·.name)).Nodup) {s : Suite} (h : s ∈ suites) :
    lookup suites s.name = some s :=
  find?_eq_of_nodup_map hnd h fun _ => decide_eq_true_iff

theorem cell_isSome (s : Suite) (j : Nat) : (cell s j).isSome = s.runs.any (fun r => r.inv == j) := by
  rw [cell, Option.isSome_map, List.isSome_find?]

theorem cell_snoc {s s' : Suite} {run : Run} (h : s'.runs = s.runs ++ [run]) (j : Nat) :
    cell s' j = (cell s j).or (if run.inv = j then some (run.status, run.link) else none) := by
  simp only [cell, h, List.find?_append, List.find?_singleton, Option.map_or, beq_iff_eq, apply_ite (Option.map _),
    Option.map_some, Option.map_none]

def cellAt (suites : List Suite) (nm : Bytes) (j : Nat) : Option (Status × Bytes) :=
  (lookup suites nm).bind (cell · j)

theorem cellAt_cons (s : Suite) (ss : List Suite) (nm : Bytes) (j : Nat) :
    cellAt (s :: ss) nm j = if s.name = nm then cell s j else cellAt ss nm j := by
  rw [cellAt, lookup_cons, apply_ite (Option.bind · _)]
  rfl

theorem cellAt_of_mem {suites : List Suite} (hnd : (suites.map (·.name)).Nodup) {s : Suite} (h : s ∈ suites) (j : Nat) :
    cellAt suites s.name j = cell s j := by
  rw [cellAt, mem_lookup hnd h]
  rfl

section addRun
variable {suites : List Suite} {name : Bytes} {run : Run}

theorem addRun_cons {s : Suite} {rest : List Suite} :
    (addRun (s :: rest) name run).1 =
      if s.name = name then
        (if s.runs.any (fun r => r.inv == run.inv) then s
         else { s with fail := s.fail + (if run.status.failure then 1 else 0), runs := s.runs ++ [run] }) :: rest
      else s :: (addRun rest name run).1 := by
  rw [addRun, apply_ite Prod.fst, apply_ite Prod.fst, apply_ite (· :: rest)]

theorem addRun_names :
    (addRun suites name run).1.map (·.name) =
      if name ∈ suites.map (·.name) then suites.map (·.name) else suites.map (·.name) ++ [name] := by
  induction suites with
  | nil => rfl
  | cons s rest ih =>
    rw [addRun_cons]
    by_cases hs : s.name = name
    · rw [if_pos hs, if_pos (show name ∈ (s :: rest).map (·.name) from hs ▸ List.mem_cons_self), List.map_cons,
        apply_ite Suite.name, ite_self]
      rfl
    · have : ¬ name = s.name := fun e => hs e.symm
      rw [if_neg hs, List.map_cons, List.map_cons, ih]
      simp only [List.mem_cons, this, false_or, apply_ite (s.name :: ·), List.cons_append]

theorem mem_addRun_names {nm : Bytes} :
    nm ∈ (addRun suites name run).1.map (·.name) ↔ nm ∈ suites.map (·.name) ∨ name = nm := by
  rw [addRun_names]
  by_cases h : name ∈ suites.map (·.name)
  · rw [if_pos h]
    exact ⟨Or.inl, fun h' => h'.elim id (· ▸ h)⟩
  · rw [if_neg h, List.mem_append, List.mem_singleton, eq_comm]

theorem addRun_nodup (h : (suites.map (·.name)).Nodup) :
    ((addRun suites name run).1.map (·.name)).Nodup := by
  rw [addRun_names]
  by_cases hm : name ∈ suites.map (·.name)
  · rw [if_pos hm]
    exact h
  · rw [if_neg hm]
    exact List.nodup_append.mpr ⟨h, List.pairwise_singleton _ _, fun a ha b hb e => hm (List.mem_singleton.mp hb ▸ e ▸ ha)⟩

theorem cellAt_addRun {nm : Bytes} {j : Nat} :
    cellAt (addRun suites name run).1 nm j =
      (cellAt suites nm j).or (if name = nm ∧ run.inv = j then some (run.status, run.link) else none) := by
  induction suites with
  | nil =>
    -- the new suite, read as its run appended to a suite without runs
    rw [addRun, cellAt_cons, cell_snoc (s := ⟨name, 0, []⟩) rfl]
    by_cases h : name = nm <;> simp [h, cellAt, lookup, cell]
  | cons s rest ih =>
    rw [addRun_cons]
    by_cases hs : s.name = name
    · -- `s` is the suite of the run
      rw [if_pos hs]
      by_cases hany : s.runs.any (fun r => r.inv == run.inv) = true
      · -- it has a run for this invocation and keeps it: the cell, if it is the one asked for, is
        -- filled and `.or` ignores the new run
        rw [if_pos hany]
        by_cases h : name = nm ∧ run.inv = j
        · rw [if_pos h, cellAt_cons, if_pos (hs.trans h.1), Option.or_of_isSome]
          rw [cell_isSome, ← h.2, hany]
        · rw [if_neg h, Option.or_none]
      · -- the run is appended
        rw [if_neg hany, cellAt_cons, cellAt_cons, cell_snoc (s := s) rfl]
        by_cases h : s.name = nm <;> simp [h, ← hs]
    · -- the suite of the run is further down
      rw [if_neg hs, cellAt_cons, cellAt_cons, ih]
      by_cases h : s.name = nm
      · rw [if_pos h, if_pos h, if_neg (fun e => hs (h.trans e.1.symm)), Option.or_none]
      · rw [if_neg h, if_neg h]

end addRun

def recCell (inv : Invocation) (rc : Rec) : Status × Bytes := (classify rc.exit rc.log, linkOf inv rc)

section parseRecs
variable {i : Nat} {inv : Invocation} {recs : List Rec} {st : List Suite × Nat × Nat}

theorem parseRecs_nodup (h : (st.1.map (·.name)).Nodup) : ((parseRecs i inv recs st).1.map (·.name)).Nodup := by
  induction recs generalizing st with
  | nil => exact h
  | cons r rs ih => exact ih (addRun_nodup h)

theorem mem_parseRecs_names {nm : Bytes} :
    nm ∈ (parseRecs i inv recs st).1.map (·.name) ↔ nm ∈ st.1.map (·.name) ∨ ∃ rc ∈ recs, rc.suite = nm := by
  induction recs generalizing st with
  | nil => simp [parseRecs]
  | cons r rs ih =>
    rw [parseRecs, ih, mem_addRun_names]
    simp only [List.mem_cons, or_and_right, exists_or, exists_eq_left, or_assoc]

theorem cellAt_parseRecs {nm : Bytes} {j : Nat} :
    cellAt (parseRecs i inv recs st).1 nm j =
      (cellAt st.1 nm j).or (if i = j then (recs.find? (fun rc => decide (rc.suite = nm))).map (recCell inv) else none) := by
  induction recs generalizing st with
  | nil => simp [parseRecs]
  | cons r rs ih =>
    rw [parseRecs, ih, cellAt_addRun, Option.or_assoc, List.find?_cons]
    by_cases hi : i = j <;> by_cases hn : r.suite = nm <;> simp [hi, hn, recCell]

end parseRecs

/-- what the property demands of the cell of suite `nm` under invocation `j` -/
def specCell (invs : List Invocation) (nm : Bytes) (j : Nat) : Option (Status × Bytes) :=
  (invs[j]?).bind (fun inv => (inv.recs.find? (fun rc => decide (rc.suite = nm))).map (recCell inv))

theorem specCell_concat (done : List Invocation) (inv : Invocation) (nm : Bytes) (j : Nat) :
    specCell (done ++ [inv]) nm j =
      (specCell done nm j).or
        (if done.length = j then (inv.recs.find? (fun rc => decide (rc.suite = nm))).map (recCell inv) else none) := by
  unfold specCell
  rcases Nat.lt_trichotomy j done.length with h | rfl | h
  · rw [List.getElem?_append_left h, if_neg (Nat.ne_of_gt h), Option.or_none]
  · rw [List.getElem?_concat_length, List.getElem?_eq_none (Nat.le_refl _), if_pos rfl]
    rfl
  · rw [List.getElem?_eq_none (Nat.le_of_lt h), if_neg (Nat.ne_of_lt h),
      List.getElem?_eq_none (by rw [List.length_append]; exact h)]
    rfl

/-- Of a column only id, arch, date and time are described, not `duration`, `total` and `fail`. -/
structure Parsed.Agrees (p : Parsed) (done : List Invocation) : Prop where
  cols : p.cols.map (fun c => (c.id, c.arch, c.date, c.time)) =
    done.zipIdx.map (fun x => (x.2, x.1.arch, x.1.date, x.1.time))
  nodup : (p.suites.map (·.name)).Nodup
  names : ∀ nm, nm ∈ p.suites.map (·.name) ↔ ∃ inv ∈ done, ∃ rc ∈ inv.recs, rc.suite = nm
  cells : ∀ nm j, cellAt p.suites nm j = specCell done nm j

theorem Parsed.Agrees.len {p : Parsed} {done : List Invocation} (h : p.Agrees done) : p.cols.length = done.length := by
  simpa using congrArg List.length h.cols

theorem Parsed.Agrees.parseInv {p : Parsed} {done : List Invocation} (h : p.Agrees done) (inv : Invocation) :
    (RegressHtml.parseInv p inv).Agrees (done ++ [inv]) where
  cols := by simp [RegressHtml.parseInv, h.cols, List.zipIdx_append, h.len]
  nodup := parseRecs_nodup h.nodup
  names nm := by
    refine mem_parseRecs_names.trans ?_
    simp only [h.names, List.mem_append, List.mem_singleton, or_and_right, exists_or, exists_eq_left]
  cells nm j := by
    refine cellAt_parseRecs.trans ?_
    rw [h.cells, specCell_concat, h.len]

theorem parseAll_agrees (invs : List Invocation) : (parseAll invs).Agrees invs :=
  foldl_done_induction (I := fun done (p : Parsed) => p.Agrees done) invs (fun _ x _ _ _ h => h.parseInv x)
    ⟨rfl, List.nodup_nil, fun nm => by simp, fun nm j => by simp [cellAt, lookup, specCell]⟩

theorem dropTrailingNone_cons {α : Type} (x : Option α) (xs : List (Option α)) :
    dropTrailingNone (x :: xs) = if dropTrailingNone xs = [] ∧ x = none then [] else x :: dropTrailingNone xs := by
  rw [dropTrailingNone.eq_def]
  dsimp only
  generalize dropTrailingNone xs = d
  cases x <;> cases d <;> simp

theorem getD_dropTrailingNone {α : Type} (l : List (Option α)) (k : Nat) :
    (dropTrailingNone l).getD k none = l.getD k none := by
  induction l generalizing k with
  | nil => rfl
  | cons x xs ih =>
    rw [dropTrailingNone_cons]
    by_cases h : dropTrailingNone xs = [] ∧ x = none
    · rw [if_pos h, h.2]
      cases k with
      | zero => rfl
      | succ k =>
        rw [List.getD_cons_succ, ← ih, h.1]
        rfl
    · rw [if_neg h]
      cases k with
      | zero => rfl
      | succ k => exact ih k

theorem length_dropTrailingNone_le {α : Type} (l : List (Option α)) : (dropTrailingNone l).length ≤ l.length := by
  induction l with
  | nil => exact Nat.le_refl _
  | cons x xs ih =>
    rw [dropTrailingNone_cons]
    by_cases h : dropTrailingNone xs = [] ∧ x = none
    · rw [if_pos h]
      exact Nat.zero_le _
    · rw [if_neg h]
      exact Nat.succ_le_succ ih

end RegressHtml
end Robsd
