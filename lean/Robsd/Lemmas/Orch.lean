import Robsd.Model.Orch
import Robsd.Lemmas.ListFacts
/-
  What `check` does on the pieces every trace of the loop is made of: a parallel start, a synchronous
  step, and the barrier (the wait for every job in front of a synchronous step, of `end`, and of the
  return when the lock is found dead), each behind the `finish` events of the jobs just waited for.

  The theorems about the loop go by `fun_induction`, which numbers the branches in the order of the
  definition.  `runK`: 1 no step left · 2 skipped · 3/4 parallel, queue full (lock dead / alive) ·
  5/6 parallel, queue not full (dead / alive) · 7 `end` · 8/9 synchronous, exit 0 (dead / alive) ·
  10 synchronous, failed.  `run`: 1 · 2 · 3 full · 4 not full · 5 `end` · 6 exit 0 · 7 failed.
-/
namespace Robsd
namespace Orch

theorem remaining_sublist (o : Oracle) (k : Nat) (jobs : List Nat) : (remaining o k jobs).Sublist jobs := by
  unfold remaining
  dsimp only
  split
  · exact List.drop_sublist 1 jobs
  · exact List.filter_sublist

theorem remaining_length_lt (o : Oracle) (k : Nat) {jobs : List Nat} (h : jobs ≠ []) :
    (remaining o k jobs).length < jobs.length := by
  unfold remaining
  dsimp only
  split
  · cases jobs with
    | nil => exact absurd rfl h
    | cons a as => simp
  · have := List.length_filter_le (o.keep k) jobs
    omega

/-- `hd` holds two facts: no job finishes twice, and none of them is the last synchronous step,
    whose `finish` with a non-zero exit would set `failed` -/
theorem check_finishAll {c : Cfg} {o : Oracle} {gone running : List Nat} {ls : Option Nat} {f : Bool} {tr : List Ev}
    (hsub : gone ⊆ running) (hd : (ls.toList ++ gone).Nodup) :
    check c ⟨running, ls, f⟩ (finishAll o gone ++ tr) =
      check c ⟨running.filter (fun x => !gone.contains x), ls, f⟩ tr := by
  induction gone generalizing running with
  | nil =>
    have : running.filter (fun x => !([] : List Nat).contains x) = running := List.filter_eq_self.mpr fun _ _ => rfl
    rw [this]; rfl
  | cons j gs ih =>
    have ⟨_, hgn, hls⟩ := List.nodup_append.mp hd
    have hj : running.contains j = true := by simpa using hsub (List.mem_cons_self ..)
    have hlj : (ls == some j) = false := by
      cases ls with
      | none => rfl
      | some i => simpa using hls i (List.mem_singleton_self i) j (List.mem_cons_self ..)
    have := ih (running := running.filter (· != j))
      (fun x hx => List.mem_filter.mpr ⟨hsub (List.mem_cons_of_mem _ hx),
        by simpa using fun (e : x = j) => (List.nodup_cons.mp hgn).1 (e ▸ hx)⟩)
      (hd.sublist ((List.sublist_cons_self ..).append_left _))
    simp only [finishAll] at this
    simp only [finishAll, List.map_cons, List.cons_append, check, hj, hlj, Bool.true_and, Bool.false_and,
      Bool.or_false, this, filter_ne_filter_not_contains]

/-- the jobs outside `rem` finish, `i` starts in parallel, the checker goes on with `rem ++ [i]`;
    with the queue not full `rem` is `jobs` and nothing finishes -/
theorem check_par {c : Cfg} {o : Oracle} {i : Nat} {jobs rem : List Nat} {ls : Option Nat} {tr : List Ev}
    (hs : rem.Sublist jobs) (hd : (ls.toList ++ jobs).Nodup) (hskip : ¬c.skip i = true)
    (hlen : rem.length < c.ncpu) :
    check c ⟨jobs, ls, false⟩ (finishAll o (jobs.filter fun j => !rem.contains j) ++ [.start i false] ++ tr) =
      check c ⟨rem ++ [i], ls, false⟩ tr := by
  -- what is left of `jobs` when those outside `rem` are gone is `rem`
  have hleft : jobs.filter (fun x => !(jobs.filter fun j => !rem.contains j).contains x) = rem :=
    (List.filter_congr fun x hx => by by_cases hr : x ∈ rem <;> simp [hr, hx]).trans
      (filter_contains_of_sublist hs (hd.sublist (List.sublist_append_right ..)))
  rw [List.append_assoc, check_finishAll (fun _ h => (List.mem_filter.mp h).1)
    (hd.sublist (List.filter_sublist.append_left _)), hleft]
  have : rem.length + 1 ≤ c.ncpu := hlen
  simp [check, hskip, this]

theorem check_barrier {c : Cfg} {o : Oracle} {jobs : List Nat} {ls : Option Nat} {tr : List Ev}
    (hd : (ls.toList ++ jobs).Nodup) :
    check c ⟨jobs, ls, false⟩ (finishAll o jobs ++ tr) = check c ⟨[], ls, false⟩ tr := by
  rw [check_finishAll (fun _ h => h) hd, filter_not_contains_self]

theorem check_sync {c : Cfg} {o : Oracle} {i : Nat} {e : Int} {jobs : List Nat} {ls : Option Nat} {tr : List Ev}
    (hd : (ls.toList ++ jobs).Nodup) (hskip : ¬c.skip i = true) (hn : 1 ≤ c.ncpu) :
    check c ⟨jobs, ls, false⟩ (finishAll o jobs ++ .start i true :: .finish i e :: tr) =
      check c ⟨[], some i, e != 0⟩ tr := by
  rw [check_barrier hd]
  simp [check, hskip, hn]

theorem runK_eq_run (c : Cfg) (o : Oracle) (kp : Nat → Bool) (steps : List Step) (jobs : List Nat) (k : Nat)
    (h : ∀ s ∈ steps, kp s.id = false) : runK c o kp steps jobs k = run c o steps jobs k := by
  induction steps generalizing jobs k with
  | nil => rfl
  | cons s rest ih =>
    have ih := fun jobs k => ih jobs k fun t ht => h t (List.mem_cons_of_mem _ ht)
    simp only [runK, run, h s (List.mem_cons_self ..), Bool.false_eq_true, if_false, ih]

end Orch
end Robsd
