/- Insertion sort, once.  Each of the models' sorts has an insert function of its own; all are
   `insert before` for some test `before x y` ("x may go in front of y"), and what is proved here
   is carried over by showing the model's insert function equal to it. -/
namespace Robsd
namespace InsertSort
variable {α : Type} {before : α → α → Bool}

def insert (before : α → α → Bool) (x : α) : List α → List α
  | [] => [x]
  | y :: ys => if before x y then x :: y :: ys else y :: insert before x ys

def sort (before : α → α → Bool) (l : List α) : List α := l.foldr (insert before) []

theorem insert_perm (x : α) (l : List α) : (insert before x l).Perm (x :: l) := by
  induction l with
  | nil => exact .refl _
  | cons y ys ih =>
    unfold insert
    split
    · exact .refl _
    · exact (ih.cons y).trans (.swap x y ys)

theorem sort_perm (l : List α) : (sort before l).Perm l := by
  induction l with
  | nil => exact .refl _
  | cons x xs ih => exact (insert_perm x _).trans (ih.cons x)

/-- `pos_trans` is all the transitivity needed: it holds for `before` and `R` both `(· ≤ ·)` as well
    as for a strict `before = lt` with `R a b := lt b a = false`. -/
theorem insert_pairwise {R : α → α → Prop}
    (pos : ∀ x y, before x y = true → R x y) (neg : ∀ x y, before x y = false → R y x)
    (pos_trans : ∀ x y z, before x y = true → R y z → R x z)
    (x : α) {l : List α} (h : l.Pairwise R) : (insert before x l).Pairwise R := by
  induction l with
  | nil => exact List.pairwise_singleton _ _
  | cons y ys ih =>
    have ⟨hy, hys⟩ := List.pairwise_cons.mp h
    unfold insert
    split
    · rename_i hxy
      refine List.pairwise_cons.mpr ⟨fun z hz => ?_, h⟩
      rcases List.mem_cons.mp hz with rfl | hz
      · exact pos _ _ hxy
      · exact pos_trans _ _ _ hxy (hy z hz)
    · rename_i hxy
      refine List.pairwise_cons.mpr ⟨fun z hz => ?_, ih hys⟩
      rcases List.mem_cons.mp ((insert_perm x ys).mem_iff.mp hz) with rfl | hz
      · exact neg _ _ (by simpa using hxy)
      · exact hy z hz

theorem sort_pairwise {R : α → α → Prop}
    (pos : ∀ x y, before x y = true → R x y) (neg : ∀ x y, before x y = false → R y x)
    (pos_trans : ∀ x y z, before x y = true → R y z → R x z)
    (l : List α) : (sort before l).Pairwise R := by
  induction l with
  | nil => exact .nil
  | cons x xs ih => exact insert_pairwise pos neg pos_trans x ih

end InsertSort
end Robsd
