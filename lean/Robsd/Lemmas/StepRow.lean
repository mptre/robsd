import Robsd.Lemmas.Split
import Robsd.Lemmas.Decimal
/- Rows of the step file against the field table `Gen.stepFields`: what a column may
   hold, and the round trip of one row through `step_serialize` and the row parser. -/
namespace Robsd
namespace StepFile
open Interp

def renderVal : FVal → Bytes
  | .unknown => []
  | .str s => s
  | .int i => renderInt i

def lineOf (r : Row) : Bytes := intercalateB COMMA (r.map renderVal)

def Clean (s : Bytes) : Prop := COMMA ∉ s ∧ NL ∉ s ∧ DOLLAR ∉ s ∧ (0 : UInt8) ∉ s
def InI64 (i : Int) : Prop := i64Min ≤ i ∧ i ≤ i64Max
instance (s : Bytes) : Decidable (Clean s) := by unfold Clean; exact inferInstance
instance (i : Int) : Decidable (InI64 i) := by unfold InI64; exact inferInstance

/-- A row as the orchestrator writes it.  `s n e d dl lg u t sk` are step, name, exit, duration, delta,
    log, user, time, skip, in the order of `Gen.stepFields`; the log is the optional string field. -/
structure RowOk (r : Row) : Prop where
  shape : ∃ s n e d dl lg u t sk, r = [.int s, .str n, .int e, .int d, .int dl, .str lg, .str u, .int t, .int sk] ∧
    InI64 s ∧ InI64 e ∧ InI64 d ∧ InI64 dl ∧ InI64 t ∧ InI64 sk ∧ Clean n ∧ Clean lg ∧ Clean u ∧ n ≠ [] ∧ u ≠ []

open Gen

def names : List Bytes := stepFields.map (·.name)

def cell (r : Row) (fd : FieldDef) : FVal := r.getD fd.index .unknown

/-- what the column of `fd` may hold while a row is put together -/
def ValFor (fd : FieldDef) : FVal → Prop
  | .unknown => True
  | .int i => fd.type = .integer ∧ InI64 i
  | .str s => fd.type = .string ∧ Clean s ∧ (fd.optional = true ∨ s ≠ [])

instance (fd : FieldDef) (v : FVal) : Decidable (ValFor fd v) := by
  cases v <;> unfold ValFor <;> exact inferInstance

def RowDraft (r : Row) : Prop := r.length = nfields ∧ ∀ fd ∈ stepFields, ValFor fd (cell r fd)

theorem fieldDef_name : ∀ fd ∈ stepFields, fieldDef fd.name = some fd := by decide +kernel

theorem stepFields_index {i : Nat} {fd : FieldDef} (h : stepFields[i]? = some fd) : fd.index = i :=
  (by decide +kernel : ∀ p ∈ stepFields.zipIdx, p.1.index = p.2) (fd, i) (List.mem_zipIdx_iff_getElem?.mpr h)

/-- `${fd.name}` scans as a reference: what `interp_joined_refs` asks of the names -/
theorem stepFields_name_ref : ∀ fd ∈ stepFields, RBRACE ∉ fd.name ∧ fd.name ≠ [] := by decide +kernel

/-- the row `step_init` makes -/
def freshRow : Row := [.unknown, .unknown, .unknown, .unknown, .int 0, .str [], .unknown, .unknown, .int 0]

theorem initRow_eq : initRow = some freshRow := by decide +kernel

theorem freshRow_str : ∀ fd ∈ stepFields, fd.type = .string → fd.optional = true →
    freshRow[fd.index]? = some (.str []) := by decide +kernel

theorem set_draft {r : Row} (hr : RowDraft r) {fd : FieldDef} (hm : fd ∈ stepFields) {v : FVal}
    (hv : ValFor fd v) : RowDraft (r.set fd.index v) := by
  refine ⟨by rw [List.length_set]; exact hr.1, fun fd' hm' => ?_⟩
  rw [cell, List.getD_eq_getElem?_getD, List.getElem?_set]
  by_cases e : fd.index = fd'.index
  · -- same index, same field
    obtain ⟨i, hi⟩ := List.mem_iff_getElem?.mp hm
    obtain ⟨j, hj⟩ := List.mem_iff_getElem?.mp hm'
    rw [stepFields_index hi, stepFields_index hj] at e
    rw [e, hj] at hi
    cases hi
    rw [if_pos rfl]
    split  -- outside the row the cell reads `.unknown`
    · exact hv
    · trivial
  · rw [if_neg e, ← List.getD_eq_getElem?_getD]
    exact hr.2 fd' hm'

theorem map_cell {β : Type} (f : FVal → β) {r : Row} (h : r.length = nfields) :
    stepFields.map (fun fd => f (cell r fd)) = r.map f := by
  apply List.ext_getElem?
  intro i
  simp only [List.getElem?_map]
  cases hi : stepFields[i]? with
  | none =>
    have : r.length ≤ i := by rw [h]; exact List.getElem?_eq_none_iff.mp hi
    simp [List.getElem?_eq_none this]
  | some fd =>
    have : i < r.length := by rw [h]; exact (List.getElem?_eq_some_iff.mp hi).1
    simp [cell, stepFields_index hi, List.getElem?_eq_getElem this]

theorem exists_field_of_getElem? {r : Row} (h : r.length = nfields) {j : Nat} {v : FVal} (hj : r[j]? = some v) :
    ∃ fd, stepFields[j]? = some fd ∧ cell r fd = v := by
  simpa only [List.getElem?_map, List.map_id, hj, Option.map_eq_some_iff, id] using
    congrArg (·[j]?) (map_cell id h)

theorem valFor_clean {fd : FieldDef} {v : FVal} (h : ValFor fd v) : Clean (renderVal v) := by
  cases v with
  | unknown => simp [Clean, renderVal]
  | str s => exact h.2.1
  | int i =>
    exact ⟨renderInt_not_mem rfl (by decide), renderInt_not_mem rfl (by decide),
      renderInt_not_mem rfl (by decide), renderInt_not_mem rfl (by decide)⟩

theorem rendered_clean {r : Row} (hp : RowDraft r) : ∀ x ∈ r.map renderVal, Clean x := by
  rw [← map_cell renderVal hp.1]
  intro x hx
  obtain ⟨fd, hm, rfl⟩ := List.mem_map.mp hx
  exact valFor_clean (hp.2 fd hm)

theorem valFor_ne_unknown {fd : FieldDef} {v : FVal} (hv : ValFor fd v) (hu : v ≠ .unknown) :
    match fd.type with
    | .integer => ∃ i, v = .int i ∧ InI64 i
    | .string => ∃ s, v = .str s ∧ Clean s ∧ (fd.optional = true ∨ s ≠ []) := by
  cases v with
  | unknown => exact absurd rfl hu
  | int i => rw [hv.1]; exact ⟨i, rfl, hv.2⟩
  | str s => rw [hv.1]; exact ⟨s, rfl, hv.2⟩

/-- The one place where the nine fields are gone through by hand. -/
theorem rowOk_iff {r : Row} : RowOk r ↔ RowDraft r ∧ ∀ fd ∈ stepFields, cell r fd ≠ .unknown := by
  constructor
  · rintro ⟨s, n, e, d, dl, lg, u, t, sk, rfl, hs, he, hd, hdl, ht, hsk, hn, hlg, hu, hnn, hun⟩
    refine ⟨⟨rfl, ?_⟩, ?_⟩ <;>
    simp only [stepFields, List.forall_mem_cons, List.not_mem_nil, false_imp_iff, implies_true, and_true, cell,
      List.getD_cons_zero, List.getD_cons_succ, ValFor, true_and, ne_eq, reduceCtorEq, not_false_eq_true]
    -- "no cell unknown" is closed (`reduceCtorEq`); left of the draft: one `ValFor` fact per field, in the table's order
    exact ⟨hs, ⟨hn, Or.inr hnn⟩, he, hd, hdl, ⟨hlg, Or.inl trivial⟩, ⟨hu, Or.inr hun⟩, ht, hsk⟩
  · rintro ⟨⟨hl, hv⟩, hc⟩
    have hr := map_cell id hl
    simp only [stepFields, List.forall_mem_cons, List.not_mem_nil, false_imp_iff, implies_true, and_true,
      List.map_cons, List.map_nil, List.map_id, id] at hv hc hr
    obtain ⟨h0, h1, h2, h3, h4, h5, h6, h7, h8⟩ := hv
    obtain ⟨c0, c1, c2, c3, c4, c5, c6, c7, c8⟩ := hc
    obtain ⟨s, e0, hs⟩ := valFor_ne_unknown h0 c0
    obtain ⟨n, e1, hn, hnn⟩ := valFor_ne_unknown h1 c1
    obtain ⟨e, e2, he⟩ := valFor_ne_unknown h2 c2
    obtain ⟨d, e3, hd⟩ := valFor_ne_unknown h3 c3
    obtain ⟨dl, e4, hdl⟩ := valFor_ne_unknown h4 c4
    obtain ⟨lg, e5, hlg, _⟩ := valFor_ne_unknown h5 c5
    obtain ⟨u, e6, hu, hun⟩ := valFor_ne_unknown h6 c6
    obtain ⟨t, e7, ht⟩ := valFor_ne_unknown h7 c7
    obtain ⟨sk, e8, hsk⟩ := valFor_ne_unknown h8 c8
    rw [e0, e1, e2, e3, e4, e5, e6, e7, e8] at hr
    exact ⟨⟨s, n, e, d, dl, lg, u, t, sk, hr.symm, hs, he, hd, hdl, ht, hsk, hn, hlg, hu,
      hnn.resolve_left (by decide), hun.resolve_left (by decide)⟩⟩

theorem RowOk.draft {r : Row} (h : RowOk r) : RowDraft r := (rowOk_iff.mp h).1

theorem rowLookup_name (r : Row) {fd : FieldDef} (hm : fd ∈ stepFields) :
    rowLookup r fd.name = if cell r fd = .unknown then none else some (renderVal (cell r fd)) := by
  have e : rowLookup r fd.name = match cell r fd with
      | .unknown => none | .str s => some s | .int i => some (renderInt i) := by
    simp only [rowLookup, fieldDef_name fd hm, cell]
    rfl
  rw [e]
  cases cell r fd <;> simp [renderVal]

theorem serializeRow_iff {r : Row} (hp : RowDraft r) {o : Bytes} :
    serializeRow r = some o ↔ RowOk r ∧ o = lineOf r ++ [NL] := by
  rw [rowOk_iff, and_iff_right hp]
  have hv : ∀ fd ∈ stepFields, ∀ v, rowLookup r fd.name = some v → DOLLAR ∉ v := by
    intro fd hm v hl
    rw [rowLookup_name r hm] at hl
    split at hl <;> cases hl
    exact (valFor_clean (hp.2 fd hm)).2.2.1
  have hout : stepFields.map (fun fd => (rowLookup r fd.name).getD []) = r.map renderVal := by
    rw [← map_cell renderVal hp.1]
    apply List.map_congr_left
    intro fd hm
    rw [rowLookup_name r hm]
    split <;> simp [*, renderVal]
  have hfind : stepFields.find? (fun fd => (rowLookup r fd.name).isNone) = none ↔
      ∀ fd ∈ stepFields, cell r fd ≠ .unknown := by
    rw [List.find?_eq_none]
    exact forall₂_congr fun fd hm => by rw [rowLookup_name r hm]; split <;> simp [*]
  unfold serializeRow interpStr
  -- `interp_joined_refs` with `pre = []` (put there by `List.nil_append`), `sep = COMMA`, `tail = [NL]`; it asks for a
  -- depth `d + 2`, which the generated limit allows
  rw [show Gen.interpolateDepthLimit - 1 = (Gen.interpolateDepthLimit - 3) + 2 from rfl, template, ← List.nil_append (intercalateB _ _),
    interp_joined_refs (·.name) stepFields [] (hsep := by decide) (hp := by simp) (ht := by decide) stepFields_name_ref hv,
    hout, ← hfind]
  cases stepFields.find? (fun fd => (rowLookup r fd.name).isNone) <;> simp [lineOf, eq_comm]

theorem setField_render {fd : FieldDef} (hm : fd ∈ stepFields) {v : FVal} (hv : ValFor fd v)
    (hu : v ≠ .unknown) (row : Row) :
    setField row fd.name (renderVal v) = some (row.set fd.index v) := by
  unfold setField
  rw [fieldDef_name fd hm]
  cases v with
  | unknown => exact absurd rfl hu
  | int i => simp only [hv.1, renderVal, strtonum_renderInt hv.2]
  | str s => simp only [hv.1, renderVal]

theorem renderVal_eq_nil {fd : FieldDef} {v : FVal} (hv : ValFor fd v) (hu : v ≠ .unknown)
    (he : renderVal v = []) : v = .str [] ∧ fd.type = .string ∧ fd.optional = true := by
  cases v with
  | unknown => exact absurd rfl hu
  | int i => exact absurd he (renderInt_ne_nil i)
  | str s => cases he; exact ⟨rfl, hv.1, hv.2.2.resolve_right (by simp)⟩

/-- `done` are the columns already passed, `olds` what the row holds in the others; an empty field
    leaves its column as it was. -/
theorem assignFields_render (cols : List Bytes) (vs : Row) : ∀ (done olds : Row), olds.length = vs.length →
    (∀ j v, vs[j]? = some v →
      (renderVal v = [] ∧ olds[j]? = some v) ∨
      (renderVal v ≠ [] ∧ ∃ key, cols[done.length + j]? = some key ∧
        ∀ row, setField row key (renderVal v) = some (row.set (done.length + j) v))) →
    assignFields cols done.length (vs.map renderVal) (done ++ olds) = some (done ++ vs) := by
  induction vs with
  | nil =>
    intro done olds hl _
    rw [List.eq_nil_of_length_eq_zero hl]
    rfl
  | cons v vs ih =>
    intro done olds hl h
    obtain ⟨old, olds, rfl⟩ := List.exists_cons_of_length_eq_add_one hl
    have next := ih (done ++ [v]) olds (Nat.succ.inj hl) fun j w hw => by
      rw [List.length_append, List.length_singleton, Nat.add_assoc, Nat.add_comm 1 j]
      exact h (j + 1) w hw
    rw [List.length_append, List.length_singleton, List.append_assoc, List.append_assoc,
      List.singleton_append, List.singleton_append] at next
    rw [List.map_cons, assignFields]
    rcases h 0 v rfl with ⟨he, ho⟩ | ⟨hne, key, hk, hs⟩
    · cases ho
      rw [he, if_pos List.isEmpty_nil]
      exact next
    · rw [Nat.add_zero] at hk hs
      rw [if_neg (by simpa using hne : ¬ (renderVal v).isEmpty = true), hk]
      simpa [hs] using next

theorem parseRow_ok {r : Row} (h : RowOk r) : parseRow names (lineOf r) = some r := by
  obtain ⟨hp, hc⟩ := rowOk_iff.mp h
  -- the last field of the line is not empty: the last column is an integer
  obtain ⟨lf, hlf, hty⟩ : ∃ fd, stepFields.getLast? = some fd ∧ fd.type = .integer := ⟨_, rfl, rfl⟩
  have hlm : lf ∈ stepFields := List.mem_of_getLast? hlf
  have hlast : (r.map renderVal).getLast? = some (renderVal (cell r lf)) := by
    rw [← map_cell renderVal hp.1, List.getLast?_map, hlf]; rfl
  have hlne : renderVal (cell r lf) ≠ [] := fun he => by
    have := (renderVal_eq_nil (hp.2 lf hlm) (hc lf hlm) he).2.1
    rw [hty] at this
    cases this
  have hassign : assignFields names 0 (r.map renderVal) freshRow = some r := by
    refine assignFields_render names r [] _ hp.1.symm (fun j v hj => ?_)
    obtain ⟨fd, hi, rfl⟩ := exists_field_of_getElem? hp.1 hj
    have hm : fd ∈ stepFields := List.mem_of_getElem? hi
    by_cases he : renderVal (cell r fd) = []
    · -- `step_init` has put "" there
      obtain ⟨hs, hty, hopt⟩ := renderVal_eq_nil (hp.2 fd hm) (hc fd hm) he
      rw [hs]
      exact Or.inl ⟨rfl, stepFields_index hi ▸ freshRow_str fd hm hty hopt⟩
    · refine Or.inr ⟨he, fd.name, by simp [names, hi], fun row => ?_⟩
      rw [List.length_nil, Nat.zero_add, ← stepFields_index hi]
      exact setField_render hm (hp.2 fd hm) (hc fd hm) row
  have hvalid : validRow r = true :=
    List.all_eq_true.mpr fun fd hm => by simpa [cell] using Or.inr (hc fd hm)
  have hne : r.map renderVal ≠ [] := fun e => by rw [e] at hlast; cases hlast
  simp only [parseRow, lineOf, splitOn_intercalate hne (fun x hx => (rendered_clean hp x hx).1), hlast,
    List.isEmpty_eq_false_iff.mpr hlne, initRow_eq, hassign, hvalid, Bool.false_eq_true, if_false, if_true]

end StepFile
end Robsd
