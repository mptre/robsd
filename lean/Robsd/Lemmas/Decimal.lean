import Robsd.Model.StepFile
/- `%d` followed by `strtonum` is the identity; a rendered integer consists of digits and `-`. -/
namespace Robsd
namespace StepFile

theorem isDigitB_iff {d : UInt8} : isDigitB d = true ↔ 48 ≤ d.toNat ∧ d.toNat ≤ 57 := by
  simp [isDigitB, UInt8.le_iff_toNat_le]

theorem digit_toNat {k : Nat} (h : k < 10) : (UInt8.ofNat (48 + k)).toNat = 48 + k := by
  rw [UInt8.toNat_ofNat']; omega

theorem digit_isDigitB {k : Nat} (h : k < 10) : isDigitB (UInt8.ofNat (48 + k)) = true :=
  isDigitB_iff.mpr (by rw [digit_toNat h]; omega)

theorem digitsVal_snoc (xs : Bytes) (d : UInt8) :
    digitsVal (xs ++ [d]) = 10 * digitsVal xs + (d.toNat - 48) := by
  simp [digitsVal, List.foldl_append]

theorem digitsVal_natDigits {f n : Nat} (h : n < f) : digitsVal (natDigits f n) = n := by
  fun_induction natDigits f n with
  | case1 => omega  -- no fuel
  | case2 f n h10 =>  -- one digit
    show 10 * 0 + ((UInt8.ofNat (48 + n)).toNat - 48) = n
    rw [digit_toNat h10, Nat.add_sub_cancel_left, Nat.mul_zero, Nat.zero_add]
  | case3 f n h10 ih =>
    rw [digitsVal_snoc, ih (by omega), digit_toNat (Nat.mod_lt n (by decide)), Nat.add_sub_cancel_left,
      Nat.div_add_mod]

theorem natDigits_digits {f n : Nat} (h : n < f) : ∀ b ∈ natDigits f n, isDigitB b = true := by
  fun_induction natDigits f n with
  | case1 => omega
  | case2 f n h10 => exact List.forall_mem_singleton.mpr (digit_isDigitB h10)
  | case3 f n h10 ih =>
    exact List.forall_mem_append.mpr
      ⟨ih (by omega), List.forall_mem_singleton.mpr (digit_isDigitB (Nat.mod_lt n (by decide)))⟩

theorem natDigits_ne_nil {f n : Nat} (h : n < f) : natDigits f n ≠ [] := by
  fun_cases natDigits f n with
  | case1 => omega
  | _ => simp

theorem digitsVal_renderNat (n : Nat) : digitsVal (renderNat n) = n := digitsVal_natDigits (Nat.lt_add_one n)

theorem renderNat_digits (n : Nat) : ∀ b ∈ renderNat n, isDigitB b = true := natDigits_digits (Nat.lt_add_one n)

theorem renderNat_ne_nil (n : Nat) : renderNat n ≠ [] := natDigits_ne_nil (Nat.lt_add_one n)

theorem renderNat_not_mem {n : Nat} {c : UInt8} (hd : isDigitB c = false) : c ∉ renderNat n :=
  fun h => by rw [renderNat_digits n c h] at hd; cases hd

theorem parseDigits_renderNat (n : Nat) : parseDigits (renderNat n) = some n := by
  simp [parseDigits, renderNat_ne_nil, List.all_eq_true.mpr (renderNat_digits n), digitsVal_renderNat]

theorem renderNat_inj {a b : Nat} (h : renderNat a = renderNat b) : a = b := by
  have ha := parseDigits_renderNat a
  rw [h, parseDigits_renderNat b] at ha
  exact (Option.some.inj ha).symm

theorem isDigitB_not_space_sign {d : UInt8} (h : isDigitB d = true) : isSpaceB d = false ∧ d ≠ 45 ∧ d ≠ 43 := by
  rw [isDigitB_iff] at h
  simp only [isSpaceB, Bool.or_eq_false_iff, Bool.and_eq_false_iff, decide_eq_false_iff_not, beq_eq_false_iff_ne, ne_eq,
    UInt8.le_iff_toNat_le, ← UInt8.toNat_inj, UInt8.toNat_ofNat]
  omega

theorem parseDecimal_digits {ds : Bytes} (hall : ∀ b ∈ ds, isDigitB b = true) (hne : ds ≠ []) :
    parseDecimal ds = (parseDigits ds).map (fun v => (v : Int)) := by
  cases ds with
  | nil => exact absurd rfl hne
  | cons d rest =>
    obtain ⟨hs, h45, h43⟩ := isDigitB_not_space_sign (hall d List.mem_cons_self)
    unfold parseDecimal
    simp only [List.dropWhile_cons, hs, Bool.false_eq_true, if_false]
    split  -- `-`, `+`, neither
    · next heq => exact absurd (List.cons.inj heq).1 h45
    · next heq => exact absurd (List.cons.inj heq).1 h43
    · rfl

theorem parseDecimal_renderInt (i : Int) : parseDecimal (renderInt i) = some i := by
  unfold renderInt
  split
  · rename_i hneg
    have hs : isSpaceB 45 = false := by decide
    have e : -(i.natAbs : Int) = i := by omega
    simp only [parseDecimal, List.dropWhile_cons, hs, Bool.false_eq_true, if_false, parseDigits_renderNat]
    exact congrArg some e
  · rename_i hpos
    have e : (i.toNat : Int) = i := Int.toNat_of_nonneg (Int.not_lt.mp hpos)
    rw [parseDecimal_digits (renderNat_digits _) (renderNat_ne_nil _), parseDigits_renderNat]
    exact congrArg some e

theorem strtonum_renderInt {i lo hi : Int} (h : lo ≤ i ∧ i ≤ hi) : strtonum (renderInt i) lo hi = some i := by
  unfold strtonum
  rw [parseDecimal_renderInt]
  simp [h]

theorem strtonum_inrange {s : Bytes} {lo hi v : Int} (h : strtonum s lo hi = some v) : lo ≤ v ∧ v ≤ hi := by
  revert h
  fun_cases strtonum s lo hi
  case case2 hr => rintro ⟨⟩; exact hr  -- a number in range
  all_goals nofun

theorem renderInt_ne_nil (i : Int) : renderInt i ≠ [] := by
  unfold renderInt
  split
  · simp
  · exact renderNat_ne_nil _

theorem renderInt_not_mem {i : Int} {c : UInt8} (hd : isDigitB c = false) (hm : c ≠ 45) : c ∉ renderInt i := by
  unfold renderInt
  split
  · exact List.not_mem_cons_of_ne_of_not_mem hm (renderNat_not_mem hd)
  · exact renderNat_not_mem hd

end StepFile
end Robsd
