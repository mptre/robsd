import Robsd.Model.Map
import Robsd.Lemmas.ListFacts
/- The invariant of the uthash table of libks/map.c and its preservation, for every hash function. -/
namespace Robsd
namespace Map

theorem updAt_eq_modify {α} (l : List α) (i : Nat) (f : α → α) : updAt l i f = l.modify i f := by
  induction l generalizing i with
  | nil => cases i <;> rfl
  | cons x xs ih => cases i <;> simp [updAt, ih]

@[simp] theorem length_updAt {α} (l : List α) (i : Nat) (f : α → α) : (updAt l i f).length = l.length := by
  rw [updAt_eq_modify, List.length_modify]

theorem bucketAt_updAt {bs : List Bucket} {i : Nat} (h : i < bs.length) (j : Nat) (f : Bucket → Bucket) :
    bucketAt (updAt bs i f) j = if j = i then f (bucketAt bs i) else bucketAt bs j := by
  simp only [bucketAt, updAt_eq_modify, List.getD_eq_getElem?_getD, List.getElem?_modify]
  split
  · subst j; simp [List.getElem?_eq_getElem h]
  · rename_i hne; simp [Ne.symm hne]

theorem bucketAt_replicate (n j : Nat) : bucketAt (List.replicate n ({} : Bucket)) j = {} := by
  unfold bucketAt
  rw [List.getD_eq_getElem?_getD, List.getElem?_replicate]
  split <;> rfl

theorem bucketAt_of_lt {bs : List Bucket} {j : Nat} (h : j < bs.length) : bucketAt bs j = bs[j] := by
  simp [bucketAt, List.getD_eq_getElem?_getD, List.getElem?_eq_getElem h]

/-- `UT_hash_table` against the application-order list: the `hh_next` chain of bucket `j` holds,
    once each, the elements of the list that HASH_TO_BKT sends to `j`.  `bucketAt` beyond
    `num_buckets` is the empty bucket, so only `mem` needs the bound. -/
structure TInv (order : List Elem) (t : Table) : Prop where
  pos : 0 < t.buckets.length
  nodup : ∀ j, (bucketAt t.buckets j).chain.Nodup
  mem : ∀ j, j < t.buckets.length → ∀ e, e ∈ (bucketAt t.buckets j).chain ↔
          (e ∈ order ∧ bidx e.hashv t.buckets.length = j)
  count : ∀ j, (bucketAt t.buckets j).count = (bucketAt t.buckets j).chain.length
  items : t.numItems = order.length

/-- `TInv` reads `order` through membership and length only, and `t` through `buckets` and `numItems` -/
theorem TInv.congr {order order' : List Elem} {t t' : Table} (hi : TInv order t)
    (hm : ∀ e, e ∈ order' ↔ e ∈ order) (hb : t'.buckets = t.buckets)
    (hn : t'.numItems = order'.length) : TInv order' t' := by
  cases t'; cases hb
  exact { hi with mem := fun j hj e => by rw [hi.mem j hj e, hm], items := hn }

theorem tinv_empty {n : Nat} (hn : 0 < n) {t : Table} (hb : t.buckets = List.replicate n {})
    (h0 : t.numItems = 0) : TInv [] t := by
  refine ⟨by simpa [hb] using hn, ?_, ?_, ?_, h0⟩ <;> simp [hb, bucketAt_replicate]

theorem TInv.flat {order : List Elem} {t : Table} (hi : TInv order t) :
    (t.buckets.flatMap (·.chain)).Nodup ∧ ∀ e, e ∈ t.buckets.flatMap (·.chain) ↔ e ∈ order := by
  have hmem : ∀ j (hj : j < t.buckets.length) e, e ∈ t.buckets[j].chain ↔
      (e ∈ order ∧ bidx e.hashv t.buckets.length = j) :=
    fun j hj e => bucketAt_of_lt hj ▸ hi.mem j hj e
  constructor
  · refine List.pairwise_flatMap.mpr ⟨fun b hb => ?_, List.pairwise_iff_getElem.mpr ?_⟩
    · obtain ⟨j, hj, rfl⟩ := List.mem_iff_getElem.mp hb
      exact bucketAt_of_lt hj ▸ hi.nodup j
    · intro i j hil hjl hij x hx y hy hxy
      subst hxy
      -- `x` in the chains of buckets `i` and `j`: its hash selects both
      exact Nat.ne_of_lt hij (((hmem i hil x).mp hx).2.symm.trans ((hmem j hjl x).mp hy).2)
  · intro e
    rw [List.mem_flatMap]
    constructor
    · rintro ⟨b, hb, he⟩
      obtain ⟨j, hj, rfl⟩ := List.mem_iff_getElem.mp hb
      exact ((hmem j hj e).mp he).1
    · intro he
      have hj := bidx_lt e.hashv hi.pos
      exact ⟨_, List.getElem_mem hj, (hmem _ hj e).mpr ⟨he, rfl⟩⟩

/-- bucket `i` alone is rewritten: `hb` is the invariant of the new bucket (`obtain` sees through the
    `let`), `ho` says that `order'` differs from `order` only in elements of that bucket -/
theorem tinv_update {order order' : List Elem} {t : Table} (hi : TInv order t) {i : Nat}
    (hlt : i < t.buckets.length) {f : Bucket → Bucket} {n' : Nat}
    (hb : let b := f (bucketAt t.buckets i)
      b.chain.Nodup ∧ b.count = b.chain.length ∧
        ∀ e, e ∈ b.chain ↔ (e ∈ order' ∧ bidx e.hashv t.buckets.length = i))
    (ho : ∀ e, bidx e.hashv t.buckets.length ≠ i → (e ∈ order' ↔ e ∈ order)) (hn : n' = order'.length) :
    TInv order' { t with buckets := updAt t.buckets i f, numItems := n' } := by
  obtain ⟨hnd, hcnt, hmem⟩ := hb
  refine ⟨by simpa using hi.pos, fun j => ?_, fun j hj e => ?_, fun j => ?_, hn⟩
  · simp only [bucketAt_updAt hlt]
    split
    · exact hnd
    · exact hi.nodup j
  · simp only [length_updAt, bucketAt_updAt hlt] at hj ⊢
    split
    · subst j
      exact hmem e
    · rename_i hne
      rw [hi.mem j hj e]
      exact and_congr_left_iff.mpr fun h => (ho e (h ▸ hne)).symm
  · simp only [bucketAt_updAt hlt]
    split
    · exact hcnt
    · exact hi.count j

/-- `f` has to link `e` only into the bucket it is applied to: `expandStep` passes a constant function. -/
theorem tinv_push {order : List Elem} {t : Table} {e : Elem} {f : Bucket → Bucket}
    (hi : TInv order t) (he : e ∉ order)
    (hf : let b := bucketAt t.buckets (bidx e.hashv t.buckets.length)
      (f b).chain = e :: b.chain ∧ (f b).count = b.count + 1) :
    TInv (order ++ [e])
      { t with numItems := t.numItems + 1,
               buckets := updAt t.buckets (bidx e.hashv t.buckets.length) f } := by
  have hj := bidx_lt e.hashv hi.pos
  obtain ⟨hc, hn⟩ := hf
  refine tinv_update hi hj ⟨?_, ?_, fun x => ?_⟩ (fun x hx => ?_) (by simp [hi.items])
  · rw [hc, List.nodup_cons]
    exact ⟨fun hm => he ((hi.mem _ hj e).mp hm).1, hi.nodup _⟩
  · rw [hc, hn, List.length_cons, hi.count]
  · -- `and_iff_left_of_imp`: the `e` of `x = e` hashes to this bucket, by `rfl`
    rw [hc, List.mem_cons, hi.mem _ hj x, List.mem_append, List.mem_singleton, or_and_right,
      and_iff_left_of_imp (a := x = e) (by rintro rfl; rfl), or_comm]
  · rw [List.mem_append, List.mem_singleton, or_iff_left (by rintro rfl; exact hx rfl)]

theorem tinv_expand {order : List Elem} {t : Table} (hi : TInv order t) : TInv order (expand t) := by
  have ⟨hnd, hall⟩ := hi.flat
  have h0 : TInv [] { t with buckets := List.replicate (t.buckets.length * 2) {}, numItems := 0 } :=
    tinv_empty (by have := hi.pos; omega) rfl rfl
  -- the redistribution loop (`expandStep`, whatever `ideal` is, from the doubled empty table and the count 0)
  -- rebuilds the invariant, one `tinv_push` per element
  refine (foldl_done_induction (f := expandStep _) (s := (_, 0))
    (I := fun done acc => TInv done { t with buckets := acc.1, numItems := done.length })
    (t.buckets.flatMap (·.chain)) (fun done e post acc el hd => ?_) h0).congr (fun e => (hall e).symm) rfl hi.items
  rw [List.length_append]
  exact tinv_push hd (not_mem_of_nodup_append_cons (el ▸ hnd)) ⟨rfl, rfl⟩

theorem tinv_addToTable {order : List Elem} {t : Table} {e : Elem} (hi : TInv order t) (he : e ∉ order) :
    TInv (order ++ [e]) (addToTable t e) := by
  have hp := tinv_push (f := fun b => { b with chain := e :: b.chain, count := b.count + 1 }) hi he ⟨rfl, rfl⟩
  simp only [addToTable]
  split
  · exact tinv_expand hp
  · exact hp

theorem tinv_delete {order : List Elem} {t : Table} {e : Elem} (hi : TInv order t) (hn : order.Nodup)
    (he : e ∈ order) : TInv (order.erase e) (delInBkt t e) := by
  have hj := bidx_lt e.hashv hi.pos
  have hin : e ∈ (bucketAt t.buckets (bidx e.hashv t.buckets.length)).chain := (hi.mem _ hj e).mpr ⟨he, rfl⟩
  refine tinv_update hi hj ⟨(hi.nodup _).erase e, ?_, fun x => ?_⟩ (fun x hx => ?_)
    (by rw [List.length_erase_of_mem he, hi.items])
  · simp only [List.length_erase_of_mem hin, hi.count]
  · rw [(hi.nodup _).mem_erase_iff, hn.mem_erase_iff, hi.mem _ hj x, and_assoc]
  · rw [hn.mem_erase_iff, and_iff_right_of_imp]
    rintro - rfl
    exact hx rfl

/-- `id` is the address of an element; the table is freed with the last element, hence the guard of `tbl` -/
structure Inv (h : Bytes → Nat) (s : St) : Prop where
  ids : (s.order.map (·.id)).Nodup
  fresh : ∀ e ∈ s.order, e.id < s.next
  hash : ∀ e ∈ s.order, e.hashv = h e.key
  tbl : s.order ≠ [] → TInv s.order s.table

/-- `map_insert` does not look the key up, its callers do -/
def KeysNodup (order : List Elem) : Prop := (order.map (·.key)).Nodup

theorem KeysNodup.sublist {l l' : List Elem} (hk : KeysNodup l) (h : l'.Sublist l) : KeysNodup l' :=
  List.Nodup.sublist (h.map _) hk

theorem Inv.nodup {h s} (hi : Inv h s) : s.order.Nodup :=
  List.Pairwise.of_map _ (fun _ _ hab e => hab (congrArg _ e)) hi.ids

theorem inv_nil (h : Bytes → Nat) {s : St} (ho : s.order = []) : Inv h s := by
  refine ⟨?_, ?_, ?_, ?_⟩ <;> simp [ho]

theorem inv_insert {h : Bytes → Nat} {s : St} (hi : Inv h s) (k : Bytes) : Inv h (insert h s k).1 := by
  have hnew : (⟨s.next, k, h k⟩ : Elem) ∉ s.order := fun hm => Nat.lt_irrefl _ (hi.fresh _ hm)
  refine ⟨?_, ?_, ?_, ?_⟩
  · exact nodup_map_concat.mpr ⟨hi.ids, fun e he => Nat.ne_of_lt (hi.fresh e he)⟩
  · exact List.forall_mem_append.mpr
      ⟨fun e he => Nat.lt_succ_of_lt (hi.fresh e he), List.forall_mem_singleton.mpr (Nat.lt_succ_self _)⟩
  · exact List.forall_mem_append.mpr ⟨hi.hash, List.forall_mem_singleton.mpr rfl⟩
  · intro _
    simp only [insert]
    split
    · rename_i ho
      rw [ho]
      exact tinv_addToTable (tinv_empty (by decide) rfl rfl) (by simp)
    · rename_i ho
      exact tinv_addToTable (hi.tbl ho) hnew

theorem find_eq_find? {h : Bytes → Nat} {s : St} (hi : Inv h s) (hk : KeysNodup s.order) (k : Bytes) :
    find h s k = s.order.find? (fun e => e.key == k) := by
  unfold find
  split
  · rename_i ho; simp [ho]
  · rename_i ho
    have ht := hi.tbl ho
    have hj := bidx_lt (h k) ht.pos
    cases hf : s.order.find? (fun e => e.key == k) with
    | none =>
      rw [List.find?_eq_none] at hf ⊢
      intro e he
      simp [hf e ((ht.mem _ hj e).mp he).1]
    | some e =>
      obtain ⟨heo, rfl⟩ := find?_key_some hf
      have heh := hi.hash e heo
      refine find?_eq_of_unique ((ht.mem _ hj e).mpr ⟨heo, by rw [heh]⟩) (by simp [heh]) fun b hb hq => ?_
      rw [Bool.and_eq_true, beq_iff_eq, beq_iff_eq] at hq
      exact inj_of_nodup_map hk b ((ht.mem _ hj b).mp hb).1 e heo hq.2

theorem erase_eq_filter_key {order : List Elem} {e : Elem} (hn : order.Nodup) (hk : KeysNodup order)
    (he : e ∈ order) : order.erase e = order.filter (fun x => x.key != e.key) := by
  rw [hn.erase_eq_filter]
  refine List.filter_congr fun x hx => ?_
  rw [Bool.eq_iff_iff, bne_iff_ne, bne_iff_ne]
  exact not_congr ⟨congrArg _, inj_of_nodup_map hk x hx e he⟩

theorem inv_delete {h : Bytes → Nat} {s : St} {e : Elem} (hi : Inv h s) (he : e ∈ s.order) :
    Inv h (delete s e) ∧ (delete s e).order = s.order.erase e ∧ (delete s e).next = s.next := by
  unfold delete
  split
  · rename_i hs
    exact ⟨inv_nil h rfl, by simp [eq_singleton_of_head?_eq_getLast? hi.nodup hs.1 hs.2], rfl⟩
  · have ho : s.order ≠ [] := List.ne_nil_of_mem he
    refine ⟨⟨?_, ?_, ?_, ?_⟩, rfl, rfl⟩
    · exact (hi.ids.sublist ((List.erase_sublist).map _))
    · intro x hx; exact hi.fresh x (List.mem_of_mem_erase hx)
    · intro x hx; exact hi.hash x (List.mem_of_mem_erase hx)
    · intro _; exact tinv_delete (hi.tbl ho) hi.nodup he

theorem inv_remove {h : Bytes → Nat} {s : St} (hi : Inv h s) (hk : KeysNodup s.order) (k : Bytes) :
    Inv h (remove h s k) ∧ (remove h s k).order = s.order.filter (fun x => x.key != k) ∧
    (remove h s k).next = s.next := by
  unfold remove
  rw [find_eq_find? hi hk k]
  cases hf : s.order.find? (fun e => e.key == k) with
  | none =>
    refine ⟨hi, ?_, rfl⟩
    rw [List.find?_eq_none] at hf
    exact (List.filter_eq_self.mpr fun x hx => by simpa using hf x hx).symm
  | some e =>
    obtain ⟨heo, rfl⟩ := find?_key_some hf
    have ⟨hi', ho', hn'⟩ := inv_delete hi heo
    exact ⟨hi', ho'.trans (erase_eq_filter_key hi.nodup hk heo), hn'⟩

end Map
end Robsd
