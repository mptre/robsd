import Robsd.Model.Conf
/-
  One round of the lexer of Model/Conf.lean with the recursive call as a
  parameter, the value parsers on well-formed input, and the keyword parser as
  "run the parser the grammar table names".
-/
namespace Robsd
namespace Conf
open Gen

/-- Evaluating `S "..."` is quadratic in the length of the literal (`String.toList` decodes by index).
    A literal is definitionally `String.ofList [..]`, so `rw [S_ofList]` (not `simp`, which does not see
    through the literal) turns it into the mapped list of its characters without evaluating anything. -/
theorem S_ofList (l : List Char) : S (String.ofList l) = l.map (fun c => UInt8.ofNat c.toNat) := by
  rw [S, String.toList_ofList]

/-- One round of `lexFrom` (Model/Conf.lean) once the blanks are dropped, the recursive call a parameter `k`:
    a transcription of its second equation, held to it by nothing but the `rfl` of `lexFrom_succ`. -/
def lexRound (m : Mode) (k : Bytes → List Tok → Bool → Option (List Tok × Bool)) (inp : Bytes) (acc : List Tok) (err : Bool) :
    Option (List Tok × Bool) :=
  match inp with
  | [] => some ((.eof :: acc).reverse, err)
  | c :: rest =>
    if c = 0 then some ((.eof :: acc).reverse, err)
    else if c = 35 then k ((rest.dropWhile (fun x => x != 10 && x != 0)).drop 1) acc err
    else if isLower c then
      let word := (c :: rest).takeWhile isWord
      let tok := match lookupTok m word with
        | none => Tok.kw word
        | some t => if t = S "KEYWORD" then .kw word else if t = S "YES" then .bool true else if t = S "NO" then .bool false else .typ t
      k ((c :: rest).dropWhile isWord) (tok :: acc) err
    else if isDigit c then
      let v := digitsVal ((c :: rest).takeWhile isDigit)
      k ((c :: rest).dropWhile isDigit) (.int v :: acc) (err || decide (intMax < v))
    else if c = 34 then
      let content := rest.takeWhile (fun x => x != 34 && x != 0)
      match rest.dropWhile (fun x => x != 34 && x != 0) with
      | [] => none
      | q :: rest' => if q = 0 then none else k rest' (.str content :: acc) (err || content.isEmpty)
    else
      let tok := match lookupTok m [c] with
        | none => Tok.typ (S "UNKNOWN")
        | some t => .typ t
      k rest (tok :: acc) err

theorem lexFrom_succ (m : Mode) (f : Nat) (inp : Bytes) (acc : List Tok) (err : Bool) :
    lexFrom m (f + 1) inp acc err = lexRound m (lexFrom m f) (inp.dropWhile isSpace) acc err := by
  rw [lexFrom]; rfl

/-- A round calls `k` on inputs shorter than its own only: each is a sublist of what follows the first byte. -/
theorem lexRound_congr {m : Mode} {k k' : Bytes → List Tok → Bool → Option (List Tok × Bool)} {inp : Bytes} {acc : List Tok}
    {err : Bool} (h : ∀ inp' acc' err', inp'.length < inp.length → k inp' acc' err' = k' inp' acc' err') :
    lexRound m k inp acc err = lexRound m k' inp acc err := by
  cases inp with
  | nil => rfl
  | cons c rest =>
    have h' := fun inp' acc' err' (hs : inp'.Sublist rest) => h inp' acc' err' (Nat.lt_succ_of_le hs.length_le)
    rw [lexRound, lexRound]
    -- one `ite_congr` per `if` of the lexer (`split` on this goal is very slow); the holes are the sublist claims
    refine ite_congr rfl (fun _ => rfl) fun _ =>            -- NUL
      ite_congr rfl (fun _ => h' _ _ _ ?comment) fun _ =>
      ite_congr rfl (fun hl => h' _ _ _ ?word) fun _ =>
      ite_congr rfl (fun hdg => h' _ _ _ ?number) fun _ =>
      ite_congr rfl (fun _ => ?string) fun _ =>
      h' _ _ _ (.refl _)                                     -- one-byte token
    case comment => exact (List.drop_sublist 1 _).trans (List.dropWhile_sublist _)
    case word =>
      rw [List.dropWhile_cons_of_pos (by simp [isWord, hl])]
      exact List.dropWhile_sublist _
    case number =>
      rw [List.dropWhile_cons_of_pos hdg]
      exact List.dropWhile_sublist _
    case string =>
      cases hq : rest.dropWhile (fun x => x != 34 && x != 0) with
      | nil => rfl
      | cons q rest' =>
        exact ite_congr rfl (fun _ => rfl) fun _ => h' _ _ _
          ((List.sublist_cons_self q rest').trans (hq ▸ List.dropWhile_sublist _))

theorem lexFrom_fuel_irrelevant (m : Mode) {f f' : Nat} (inp : Bytes) (acc : List Tok) (err : Bool)
    (h : inp.length < f) (h' : inp.length < f') :
    lexFrom m f inp acc err = lexFrom m f' inp acc err := by
  induction f generalizing f' inp acc err with
  | zero => omega
  | succ f ih =>
    cases f' with
    | zero => omega
    | succ f' =>
      -- the two rounds differ in their recursive calls only, and those are on shorter inputs
      have := (List.dropWhile_sublist isSpace (l := inp)).length_le
      rw [lexFrom_succ, lexFrom_succ]
      exact lexRound_congr fun inp' acc' err' _ => ih inp' acc' err' (by omega) (by omega)

theorem present_append (s : St) (n name : Bytes) (v : Val) :
    present (append s n v) name = (present s name || n == name) := by
  simp [present, append, List.any_append]

theorem validate_iff (m : Mode) (s : St) :
    validate m s = true ↔ ∀ g ∈ m.grammar, g.req = true → present s g.kw = true := by
  simp only [validate, List.all_eq_true, Bool.or_eq_true, Bool.not_eq_true']
  refine forall₂_congr fun g _ => ?_
  cases g.req <;> simp

theorem parseLoop_eof {m : Mode} {env : Env} {fuel : Nat} {s : St} {ts : List Tok} (h : 0 < fuel) :
    parseLoop m env fuel s (.eof :: ts) = some s :=
  match fuel, h with
  | _ + 1, _ => rfl

theorem parseListItems_strs (xs : List Bytes) (rest : List Tok) (acc : List Bytes) :
    parseListItems (xs.map Tok.str ++ rbrace :: rest) acc = some (acc ++ xs, rest) := by
  induction xs generalizing acc with
  | nil => simp [parseListItems, rbrace]
  | cons x xs ih =>
    simp only [List.map_cons, List.cons_append, parseListItems]
    rw [ih]; simp

/-- The tokens are `(lbrace :: (xs.map Tok.str ++ [rbrace])) ++ rest`, a rendered list in front of `rest`, in the
    normal form of `List.cons_append`, `List.append_assoc`, `List.nil_append`: the form in which the `simp only` of
    `stmt_accepted`, `canvasOptions_command` and `regressOptions_option` meets them. -/
theorem parseList_strs (xs : List Bytes) (rest : List Tok) :
    parseList (lbrace :: (xs.map Tok.str ++ rbrace :: rest)) = some (xs, rest) := by
  simp only [parseList, if_true]
  rw [parseListItems_strs]; simp

theorem interpS_of_lit {look : St → Bytes → Option Bytes × St} {ign : Bool} {d : Nat} {s : St} {x : Bytes}
    (h : Interp.DOLLAR ∉ x) : interpS look ign (d + 1) s x = some (x, s) := by
  rw [interpS, innerS]
  -- of the three outcomes of `scan` that `innerS` tells apart, `scan_of_lit h` leaves `.lit x`
  split <;> rename_i hp <;> rw [Interp.scan_of_lit h] at hp <;> cases hp
  rfl

theorem interpStr_of_lit {m : Mode} {env : Env} {early ign : Bool} {s : St} {x : Bytes} (h : Interp.DOLLAR ∉ x) :
    interpStr m env early ign s x = some (x, s) :=
  interpS_of_lit (d := interpolateDepthLimit - 2) h

theorem checkDir_of_lit {m : Mode} {env : Env} {s : St} {x : Bytes} (hne : x ≠ []) (h : Interp.DOLLAR ∉ x)
    (hd : env.isDir x = true) : checkDir m env s x = some s := by
  unfold checkDir
  rw [if_neg hne, interpStr_of_lit h]
  simp [hd]

/-- the value parsers `config_parse_*` of conf.c that the grammar tables name,
    in the order `parseKeyword` tests for them -/
inductive Parser where
  | boolean | integer | string | list | user | directory | glob | canvasDirectory | canvasStep
  | regress | regressEnv | regressTimeout
  deriving DecidableEq

def Parser.all : List Parser :=
  [.boolean, .integer, .string, .list, .user, .directory, .glob, .canvasDirectory, .canvasStep,
   .regress, .regressEnv, .regressTimeout]

def Parser.fn : Parser → Bytes
  | .boolean => S "config_parse_boolean"
  | .integer => S "config_parse_integer"
  | .string => S "config_parse_string"
  | .list => S "config_parse_list"
  | .user => S "config_parse_user"
  | .directory => S "config_parse_directory"
  | .glob => S "config_parse_glob"
  | .canvasDirectory => S "config_parse_canvas_directory"
  | .canvasStep => S "config_parse_canvas_step"
  | .regress => S "config_parse_regress"
  | .regressEnv => S "config_parse_regress_env"
  | .regressTimeout => S "config_parse_regress_timeout"

theorem Parser.fn_nodup : (Parser.all.map Parser.fn).Nodup := by
  simp only [Parser.all, List.map, Parser.fn]
  repeat rw [S_ofList]
  decide +kernel

/-- A transcription of the twelve branches of `parseKeyword` (Model/Conf.lean), held to them by nothing but
    the closing `rfl` of `parseKeyword_eq`: a change to a branch of the model has to be repeated here. -/
def Parser.run (m : Mode) (env : Env) (s : St) (name : Bytes) (ts : List Tok) : Parser → P
  | .boolean =>
    match ts with
    | .bool b :: rest => some (append s name (.int (if b then 1 else 0)), rest)
    | _ => none
  | .integer =>
    match ts with
    | .int n :: rest => some (append s name (.int n), rest)
    | _ => none
  | .string =>
    match ts with
    | .str x :: rest => some (append s name (.str x), rest)
    | _ => none
  | .list =>
    match parseList ts with
    | some (xs, rest) => some (append s name (.list xs), rest)
    | none => none
  | .user =>
    match ts with
    | .str x :: rest => if env.userExists x then some (append s name (.str x), rest) else none
    | _ => none
  | .directory =>
    match ts with
    | .str x :: rest => (checkDir m env s x).map (fun s1 => (append s1 name (.str x), rest))
    | _ => none
  | .glob =>
    match ts with
    | .str x :: rest =>
      match env.glob x with
      | none => none
      | some none => some (append s name (.list []), rest)
      | some (some l) => some (append s name (.list l), rest)
    | _ => none
  | .canvasDirectory =>
    match ts with
    | .str x :: rest =>
      (checkDir m env s x).map (fun s1 => (append (append s1 (S "canvas-dir") (.str x)) (S "robsddir") (.str x), rest))
    | _ => none
  | .canvasStep =>
    match ts with
    | .str x :: rest =>
      match canvasOptions (rest.length + 1) none false rest with
      | none => none
      | some (cmd, par, rest') =>
        match cmd with
        | none => none
        | some [] => none
        | some c =>
          let s1 := if s.steps.isEmpty then append s (S "step") .invalid else s
          some ({ s1 with steps := s1.steps ++ [⟨x, c, par⟩] }, rest')
    | _ => none
  | .regress =>
    match ts with
    | .str path :: rest =>
      match regressOptions m env path (rest.length + 1) s rest with
      | none => none
      | some (s1, rest') => some (findOrCreateExtend s1 (S "regress") [path], rest')
    | _ => none
  | .regressEnv =>
    match parseList ts with
    | some (xs, rest) => some (findOrCreateExtend s (S "regress-env") xs, rest)
    | none => none
  | .regressTimeout =>
    match ts with
    | .int n :: .typ u :: rest =>
      let scalar : Int := if u = S "SECONDS" then 1 else if u = S "MINUTES" then 60 else if u = S "HOURS" then 3600 else 0
      if scalar = 0 then none
      else if (intMax : Int) < scalar * n then none
      else some (append s name (.int (scalar * n)), rest)
    | _ => none

def dispatch (m : Mode) (env : Env) (s : St) (name : Bytes) (ts : List Tok) (fn : Bytes) : List Parser → P
  | [] => none
  | p :: ps => if fn = p.fn then p.run m env s name ts else dispatch m env s name ts fn ps

theorem dispatch_mem (m : Mode) (env : Env) (s : St) (name : Bytes) (ts : List Tok) (p : Parser) :
    ∀ ps : List Parser, (ps.map Parser.fn).Nodup → p ∈ ps → dispatch m env s name ts p.fn ps = p.run m env s name ts
  | q :: ps, hnd, hp => by
    rw [List.map_cons, List.nodup_cons] at hnd
    unfold dispatch
    rcases List.mem_cons.mp hp with rfl | hp
    · rw [if_pos rfl]
    · rw [if_neg (fun e : p.fn = q.fn => hnd.1 (e ▸ List.mem_map_of_mem hp)), dispatch_mem m env s name ts p ps hnd.2 hp]

/-- `p` is the parser the keyword's entry names (`hfn`); `hnp`: the keyword may be repeated or is not yet defined
    (`rfl` when `hg` gives a literal entry with `rep := true`, as `step_grammar` does). -/
theorem parseKeyword_eq {m : Mode} {env : Env} {s : St} {name : Bytes} {ts : List Tok} {g : GEntry}
    (hg : findGrammarKw m name = some g) (hnp : (!g.rep && present s name) = false) (p : Parser) (hfn : g.fn = p.fn) :
    parseKeyword m env s name ts = p.run m env s name ts := by
  rw [← dispatch_mem m env s name ts p Parser.all Parser.fn_nodup (by cases p <;> decide), ← hfn]
  unfold parseKeyword
  rw [hg]
  show (if (!g.rep && present s name) = true then none else _) = _
  rw [hnp, if_neg Bool.false_ne_true]
  rfl  -- the model's if-chain against `dispatch` over `Parser.all`, branch by branch

end Conf
end Robsd
