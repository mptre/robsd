import Robsd.Model.Arena
/- What the allocation path of libks/arena.c computes (`align_address`, `arena_push`, `arena_malloc`). -/
namespace Robsd
namespace Arena

theorem align8_ge (x : Nat) : x ≤ align8 x := by unfold align8; omega
theorem align8_lt (x : Nat) : align8 x < x + 8 := by unfold align8; omega
theorem align8_dvd (x : Nat) : 8 ∣ align8 x := by unfold align8; omega
theorem align8_of_dvd {x : Nat} (h : 8 ∣ x) : align8 x = x := by unfold align8; omega
theorem align8_mono {x y : Nat} (h : x ≤ y) : align8 x ≤ align8 y := by unfold align8; omega

/-- with a poison size that is a multiple of the alignment the gap is always too small -/
theorem alignP_eq {P : Nat} (h : 8 ∣ P) (x : Nat) : alignP P x = align8 x + P := by
  unfold alignP
  have := align8_lt x
  split <;> omega

/-- the bump pointer after a block ending at `e` in a frame of size `cap` -/
def clampA (P cap e : Nat) : Nat := min (align8 e + P) cap

theorem clampA_mono {P cap x y : Nat} (h : x ≤ y) : clampA P cap x ≤ clampA P cap y :=
  Nat.le_min.mpr ⟨Nat.le_trans (Nat.min_le_left _ _) (Nat.add_le_add_right (align8_mono h) _), Nat.min_le_right _ _⟩

theorem clampA_ge {P cap e : Nat} (h : e ≤ cap) : e ≤ clampA P cap e :=
  Nat.le_min.mpr ⟨Nat.le_trans (align8_ge e) (Nat.le_add_right _ _), h⟩

theorem clampA_le_cap {P cap e : Nat} : clampA P cap e ≤ cap := Nat.min_le_right _ _

theorem clampA_eq_of_le_cap {P cap e len : Nat} (h : align8 e + P = len) (hl : len ≤ cap) : clampA P cap e = len := by
  rw [clampA, h]; exact Nat.min_eq_left hl

/-- a bump pointer at or below `x`: the block and its poison end there (the alignment is dropped), or the
    frame does -/
theorem clampA_le_cases {P cap e x : Nat} (h : clampA P cap e ≤ x) : e + P ≤ x ∨ cap ≤ x := by
  unfold clampA at h
  rcases Nat.le_total (align8 e + P) cap with hc | hc
  · exact Or.inl (Nat.le_trans (Nat.add_le_add_right (align8_ge e) P) (Nat.min_eq_left hc ▸ h))
  · exact Or.inr (Nat.min_eq_right hc ▸ h)

theorem clampA_dvd {P cap e : Nat} (hP : 8 ∣ P) (hc : 8 ∣ cap) : 8 ∣ clampA P cap e := by
  unfold clampA
  rcases Nat.le_total (align8 e + P) cap with h | h
  · rw [Nat.min_eq_left h]; exact Nat.dvd_add (align8_dvd e) hP
  · rw [Nat.min_eq_right h]; exact hc

theorem push_eq {P : Nat} (hP : 8 ∣ P) (f : Frame) (n : Nat) :
    push P f n = if f.len + n ≤ f.size then some (f.len, { f with len := clampA P f.size (f.len + n) }) else none := by
  unfold push clampA
  rw [alignP_eq hP]
  split <;> split <;> first | rfl | omega

theorem push_some {P : Nat} (hP : 8 ∣ P) {f f' : Frame} {n o : Nat} (h : push P f n = some (o, f')) :
    o = f.len ∧ f.len + n ≤ f.size ∧ f'.h = f.h ∧ f'.size = f.size ∧ f'.len = clampA P f.size (f.len + n) := by
  rw [push_eq hP] at h
  split at h
  · next hfit => cases h; exact ⟨rfl, hfit, rfl, rfl, rfl⟩
  · cases h

theorem push_none {P : Nat} {f : Frame} {n : Nat} (h : push P f n = none) : f.size < f.len + n := by
  unfold push at h
  split at h
  · assumption
  · cases h

theorem grow_spec (total : Nat) : ∀ (fuel fs : Nat), 0 < fs → 8 ∣ fs → total ≤ fs + fuel →
    total ≤ grow fs total fuel ∧ 8 ∣ grow fs total fuel := by
  intro fuel
  induction fuel with
  | zero => intro fs _ h8 h; exact ⟨h, h8⟩
  | succ k ih =>
    intro fs hpos h8 h
    unfold grow
    split
    · exact ih (2 * fs) (by omega) (Nat.dvd_mul_left_of_dvd h8 2) (by omega)
    · exact ⟨by omega, h8⟩

/-- `arena_malloc` never fails: the current frame, or a new one that is large enough -/
theorem mallocCore_spec {p : Params} (hp : p.ok) {f : Frame} {fs : List Frame} (n : Nat) :
    (f.len + n ≤ f.size ∧
      mallocCore p (f :: fs) n = some ({ f with len := clampA p.P f.size (f.len + n) } :: fs, f.h, f.len, f.size)) ∨
    (∃ sz, 8 ∣ sz ∧ p.hdr + p.P + n ≤ sz ∧
      mallocCore p (f :: fs) n =
        some ({ h := f.h + 1, size := sz, len := clampA p.P sz (p.hdr + p.P + n) } :: f :: fs, f.h + 1, p.hdr + p.P, sz)) := by
  obtain ⟨hpos, hhdr8, hfsz8, hP8, hle⟩ := hp
  by_cases hfit : f.len + n ≤ f.size
  · exact Or.inl ⟨hfit, by simp only [mallocCore, push_eq hP8, if_pos hfit]⟩
  · obtain ⟨hge, hdvd⟩ := grow_spec (n + p.hdr + p.P) (n + p.hdr + p.P) p.fsz
      (Nat.lt_of_lt_of_le hpos hle) hfsz8 (Nat.le_add_left _ _)
    refine Or.inr ?_
    simp only [mallocCore, push_eq hP8 f, if_neg hfit]
    generalize grow p.fsz (n + p.hdr + p.P) (n + p.hdr + p.P) = sz at hge hdvd ⊢
    have hfit2 : p.hdr + p.P + n ≤ sz := by rwa [Nat.add_comm, ← Nat.add_assoc]
    have hfit1 : 0 + p.hdr ≤ sz := by omega
    have hlen1 : clampA p.P sz (0 + p.hdr) = p.hdr + p.P := by
      rw [clampA, Nat.zero_add, align8_of_dvd hhdr8]; exact Nat.min_eq_left (by omega)
    exact ⟨sz, hdvd, hfit2, by simp only [push_eq hP8, if_pos hfit1, hlen1, if_pos hfit2]⟩

end Arena
end Robsd
