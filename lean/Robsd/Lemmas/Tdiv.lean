/- Comparing with a quotient of C's truncating division (`Int.tdiv`) is comparing with the dividend:
   one lemma for each sign of dividend and divisor with which the `*_MUL_OVERFLOW` macros of
   libks/arithmetic.c divide a bound of the type (`max` by a positive or by a negative factor,
   `min` by a positive one).  A name says `nonpos` or `neg` on the side of `tdiv` where that operand
   stands, as `Int.neg_tdiv` and `Int.tdiv_neg` do (`nonpos_tdiv`: the dividend is `≤ 0`; `tdiv_neg`: the
   divisor is `< 0`); an operand not named is `0 ≤ x`, `0 < d`. -/
namespace Robsd
namespace Lemmas

theorem tdiv_lt_iff {x d a : Int} (hx : 0 ≤ x) (hd : 0 < d) : x.tdiv d < a ↔ x < a * d := by
  rw [Int.tdiv_eq_ediv_of_nonneg hx]
  exact Int.ediv_lt_iff_lt_mul hd

theorem lt_nonpos_tdiv_iff {x d b : Int} (hx : x ≤ 0) (hd : 0 < d) : b < x.tdiv d ↔ b * d < x := by
  have := @tdiv_lt_iff (-x) d (-b) (by omega) hd
  rw [Int.neg_tdiv, Int.neg_mul] at this
  omega

theorem lt_tdiv_neg_iff {x d b : Int} (hx : 0 ≤ x) (hd : d < 0) : b < x.tdiv d ↔ x < b * d := by
  have := @tdiv_lt_iff x (-d) (-b) hx (by omega)
  rw [Int.tdiv_neg, Int.neg_mul_neg] at this
  omega

end Lemmas
end Robsd
