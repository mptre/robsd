import Robsd.Lemmas.Arena
import Robsd.Lemmas.ListFacts
/-
  The arena invariant and its preservation by every operation.  `Core` looks at three lists
  (frames, blocks, scopes); its preservation is proved for a change of one list at a time, and
  an operation composes these.  `Post` is what one `step` guarantees (`step_spec`).
  `{ h with f := … }` re-proves the fields named and carries the others over; `{ hc with }` moves
  `hc : Core p s₁` to a state that differs from `s₁` only in fields `Core` does not read
  (`mem`, `next`, `ran`).
-/
namespace Robsd
namespace Arena

def Block.fin (b : Block) : Nat := b.off + b.size

/-- a newer block `c` against an older block `b` of the same frame: `c` starts
    at or after the bump pointer `b` left behind; the only exception is an empty
    `c` (no poison) that `b` has since grown over in place -/
def After (P : Nat) (c b : Block) : Prop :=
  c.h = b.h → b.off ≤ c.off ∧ (clampA P b.cap b.fin ≤ c.off ∨ (c.size = 0 ∧ P = 0))

/-- an outer scope was entered at or before the position of an inner one -/
def ScBefore (outer inner : Scope) : Prop :=
  outer.depth < inner.depth ∧ (outer.h < inner.h ∨ (outer.h = inner.h ∧ outer.len ≤ inner.len))

structure Core (p : Params) (s : St) : Prop where
  fr_ne : s.frames ≠ []
  fr_ok : ∀ f ∈ s.frames, 8 ∣ f.size ∧ 8 ∣ f.len ∧ p.hdr ≤ f.len ∧ f.len ≤ f.size
  fr_sorted : s.frames.Pairwise (fun a b => b.h < a.h)
  -- the frame of a block is live, has the size the block recorded, and its bump pointer is past the block's poison
  bl_fr : ∀ b ∈ s.blocks, ∃ f ∈ s.frames, f.h = b.h ∧ f.size = b.cap ∧ clampA p.P b.cap b.fin ≤ f.len
  bl_ok : ∀ b ∈ s.blocks, 8 ∣ b.off ∧ p.hdr ≤ b.off ∧ b.fin ≤ b.cap
  bl_ord : s.blocks.Pairwise (fun c b => After p.P c b ∧ c.id ≠ b.id)
  sc_ok : ∀ sc ∈ s.scopes, 8 ∣ sc.len ∧ p.hdr ≤ sc.len ∧ ∃ f ∈ s.frames, f.h = sc.h ∧ sc.len ≤ f.len
  sc_sorted : s.scopes.Pairwise (fun inner outer => ScBefore outer inner)
  bl_sc : ∀ b ∈ s.blocks, ∃ sc ∈ s.scopes, sc.depth = b.depth
  -- leaving an inner scope rewinds the bump pointer past no block of an outer one
  bl_before : ∀ b ∈ s.blocks, ∀ sc ∈ s.scopes, b.depth < sc.depth →
    b.h < sc.h ∨ (b.h = sc.h ∧ clampA p.P b.cap b.fin ≤ sc.len)

/-- the pending cleanups of all open scopes -/
def pending (s : St) : List Nat := s.scopes.flatMap (·.cleanups)

structure Inv (p : Params) (s : St) : Prop where
  core : Core p s
  bl_lt : ∀ b ∈ s.blocks, b.id < s.next
  cl_lt : ∀ t ∈ s.ran ++ pending s, t < s.next
  cl_nodup : (s.ran ++ pending s).Nodup

/-- the block an operation is aimed at -/
def targets (op : Op) (id : Nat) : Prop :=
  match op with
  | .realloc _ i _ _ => i = id
  | .write i _ _ => i = id
  | _ => False

variable {p : Params} {s : St}

theorem frame_unique {l : List Frame} (hs : l.Pairwise (fun a b => b.h < a.h)) {f g : Frame}
    (hf : f ∈ l) (hg : g ∈ l) (h : f.h = g.h) : f = g :=
  eq_of_key_eq (key := Frame.h) hs (fun _ _ r => Nat.ne_of_gt r) f hf g hg h

theorem block_unique {R : Block → Block → Prop} {l : List Block} (hs : l.Pairwise (fun c b => R c b ∧ c.id ≠ b.id))
    {c b : Block} (hc : c ∈ l) (hb : b ∈ l) (h : c.id = b.id) : c = b :=
  eq_of_key_eq (key := Block.id) hs (fun _ _ r => r.2) c hc b hb h

theorem Core.block_frame (h : Core p s) {b : Block} (hb : b ∈ s.blocks) {f : Frame}
    (hf : f ∈ s.frames) (hh : f.h = b.h) : f.size = b.cap ∧ clampA p.P b.cap b.fin ≤ f.len := by
  obtain ⟨g, hg, h1, h2, h3⟩ := h.bl_fr b hb
  cases frame_unique h.fr_sorted hg hf (h1.trans hh.symm)
  exact ⟨h2, h3⟩

theorem Core.fin_le (h : Core p s) {b : Block} (hb : b ∈ s.blocks) :
    b.fin ≤ clampA p.P b.cap b.fin := clampA_ge (h.bl_ok b hb).2.2

/-- a position `(g.h, l)` inside any frame is at or below the bump pointer `(f.h, f.len)` of the head frame,
    in the lexicographic order -/
theorem frames_le_head {f g : Frame} {fs : List Frame} (hs : (f :: fs).Pairwise (fun a b => b.h < a.h))
    (hg : g ∈ f :: fs) {l : Nat} (hl : l ≤ g.len) : g.h < f.h ∨ (g.h = f.h ∧ l ≤ f.len) := by
  rcases List.mem_cons.mp hg with rfl | hg
  · exact Or.inr ⟨rfl, hl⟩
  · exact Or.inl ((List.pairwise_cons.mp hs).1 g hg)

theorem Core.curDepth_max (h : Core p s) : ∀ sc ∈ s.scopes, sc.depth ≤ curDepth s := by
  unfold curDepth
  match s.scopes, h.sc_sorted with
  | [], _ => nofun
  | x :: xs, hs =>
    exact List.forall_mem_cons.mpr ⟨Nat.le_refl _, fun sc hm => Nat.le_of_lt ((List.pairwise_cons.mp hs).1 sc hm).1⟩

/-- `keep` selects the positions `(h, l)` that the new frame list must still cover: all of
    them where a frame grows or is added, those up to the scope's mark in `arena_scope_leave` -/
theorem core_frames (h : Core p s) {fr' : List Frame} (keep : Nat → Nat → Prop)
    (hne : fr' ≠ [])
    (hok : ∀ f ∈ fr', 8 ∣ f.size ∧ 8 ∣ f.len ∧ p.hdr ≤ f.len ∧ f.len ≤ f.size)
    (hsorted : fr'.Pairwise (fun a b => b.h < a.h))
    (hkeep : ∀ g ∈ s.frames, ∀ l, l ≤ g.len → keep g.h l → ∃ g' ∈ fr', g'.h = g.h ∧ g'.size = g.size ∧ l ≤ g'.len)
    (hbl : ∀ b ∈ s.blocks, keep b.h (clampA p.P b.cap b.fin))
    (hsc : ∀ sc ∈ s.scopes, keep sc.h sc.len) : Core p { s with frames := fr' } :=
  { h with
    fr_ne := hne, fr_ok := hok, fr_sorted := hsorted
    bl_fr := fun b hb =>
      have ⟨g, hg, h1, h2, h3⟩ := h.bl_fr b hb
      have ⟨g', hg', e1, e2, e3⟩ := hkeep g hg _ h3 (h1 ▸ hbl b hb)
      ⟨g', hg', e1.trans h1, e2.trans h2, e3⟩
    sc_ok := fun sc hm =>
      have ⟨h8, hh, g, hg, h1, h2⟩ := h.sc_ok sc hm
      have ⟨g', hg', e1, _, e3⟩ := hkeep g hg _ h2 (h1 ▸ hsc sc hm)
      ⟨h8, hh, g', hg', e1.trans h1, e3⟩ }

theorem core_bump (h : Core p s) {f : Frame} {fs : List Frame} (hfr : s.frames = f :: fs)
    {l : Nat} (h8 : 8 ∣ l) (hge : f.len ≤ l) (hle : l ≤ f.size) :
    Core p { s with frames := { f with len := l } :: fs } := by
  obtain ⟨⟨hsz8, -, hhdr, -⟩, hfs⟩ := List.forall_mem_cons.mp (hfr ▸ h.fr_ok)
  -- the order reads `h` alone: what `pairwise_cons.mp` says of the head `f` is, as it stands, about the new head
  refine core_frames h (fun _ _ => True) (List.cons_ne_nil _ _) ?_
    (List.pairwise_cons.mpr (List.pairwise_cons.mp (hfr ▸ h.fr_sorted))) ?_ (fun _ _ => trivial) (fun _ _ => trivial)
  · exact List.forall_mem_cons.mpr ⟨⟨hsz8, h8, Nat.le_trans hhdr hge, hle⟩, hfs⟩
  · intro g hg l' hl' _
    rw [hfr] at hg
    rcases List.mem_cons.mp hg with rfl | hg
    · exact ⟨_, List.mem_cons_self, rfl, rfl, Nat.le_trans hl' hge⟩
    · exact ⟨g, List.mem_cons_of_mem _ hg, rfl, rfl, hl'⟩

theorem core_new_frame (h : Core p s) {f : Frame} {fs : List Frame} (hfr : s.frames = f :: fs)
    {sz l : Nat} (hsz : 8 ∣ sz) (h8 : 8 ∣ l) (hge : p.hdr ≤ l) (hle : l ≤ sz) :
    Core p { s with frames := { h := f.h + 1, size := sz, len := l } :: f :: fs } := by
  have hsorted := hfr ▸ h.fr_sorted
  refine core_frames h (fun _ _ => True) (List.cons_ne_nil _ _) ?_ ?_ ?_ (fun _ _ => trivial) (fun _ _ => trivial)
  · exact List.forall_mem_cons.mpr ⟨⟨hsz, h8, hge, hle⟩, hfr ▸ h.fr_ok⟩
  · refine List.pairwise_cons.mpr ⟨fun g hg => Nat.lt_succ_of_le ?_, hsorted⟩
    exact (frames_le_head hsorted hg (Nat.le_refl _)).elim Nat.le_of_lt fun e => Nat.le_of_eq e.1
  · intro g hg l' hl' _
    exact ⟨g, List.mem_cons_of_mem _ (hfr ▸ hg), rfl, rfl, hl'⟩

/-- `bl_sc` and `bl_before` for a block of the innermost scope -/
theorem Core.block_innermost (h : Core p s) (hsc : s.scopes ≠ []) {b : Block}
    (hd : b.depth = curDepth s) :
    (∃ sc ∈ s.scopes, sc.depth = b.depth) ∧
    ∀ sc ∈ s.scopes, b.depth < sc.depth → b.h < sc.h ∨ (b.h = sc.h ∧ clampA p.P b.cap b.fin ≤ sc.len) := by
  refine ⟨?_, fun sc hm hlt => absurd (hd ▸ hlt) (Nat.not_lt.mpr (h.curDepth_max sc hm))⟩
  obtain ⟨x, xs, hx⟩ := List.exists_cons_of_ne_nil hsc
  exact ⟨x, hx ▸ List.mem_cons_self, by rw [hd, curDepth, hx]⟩

theorem core_push_block (h : Core p s) {b : Block}
    (hbf : ∃ f ∈ s.frames, f.h = b.h ∧ f.size = b.cap ∧ clampA p.P b.cap b.fin ≤ f.len)
    (hbok : 8 ∣ b.off ∧ p.hdr ≤ b.off ∧ b.fin ≤ b.cap)
    (hbeyond : ∀ c ∈ s.blocks, c.h = b.h → clampA p.P c.cap c.fin ≤ b.off)
    (hid : ∀ c ∈ s.blocks, c.id ≠ b.id)
    (hdepth : b.depth = curDepth s) (hsc : s.scopes ≠ []) :
    Core p { s with blocks := b :: s.blocks } :=
  have hin := h.block_innermost hsc hdepth
  have hafter : ∀ c ∈ s.blocks, After p.P b c ∧ b.id ≠ c.id := fun c hc =>
    ⟨fun hh => have hle := hbeyond c hc hh.symm
      ⟨Nat.le_trans (Nat.le_trans (Nat.le_add_right _ _) (h.fin_le hc)) hle, Or.inl hle⟩,
     fun e => hid c hc e.symm⟩
  { h with
    bl_fr := List.forall_mem_cons.mpr ⟨hbf, h.bl_fr⟩
    bl_ok := List.forall_mem_cons.mpr ⟨hbok, h.bl_ok⟩
    bl_ord := List.pairwise_cons.mpr ⟨hafter, h.bl_ord⟩
    bl_sc := List.forall_mem_cons.mpr ⟨hin.1, h.bl_sc⟩
    bl_before := List.forall_mem_cons.mpr ⟨hin.2, h.bl_before⟩ }

theorem core_filter (h : Core p s) (q : Block → Bool) : Core p { s with blocks := s.blocks.filter q } :=
  have hsub : ∀ b ∈ s.blocks.filter q, b ∈ s.blocks := fun _ hb => (List.mem_filter.mp hb).1
  { h with
    bl_fr := fun b hb => h.bl_fr b (hsub b hb)
    bl_ok := fun b hb => h.bl_ok b (hsub b hb)
    bl_ord := h.bl_ord.filter q
    bl_sc := fun b hb => h.bl_sc b (hsub b hb)
    bl_before := fun b hb => h.bl_before b (hsub b hb) }

theorem forall_mem_keepBlocks {b : Block} {n : Nat} {P : Block → Prop}
    (hnew : P { b with size := n, depth := curDepth s }) (hold : ∀ c ∈ s.blocks, P c) : ∀ c ∈ keepBlocks s b n, P c := by
  intro c hc
  obtain ⟨c0, hc0, rfl⟩ := List.mem_map.mp hc
  split
  · exact hnew
  · exact hold c0 hc0

/-- `arena_realloc` in place.  Of `bl_ord` the caller owes the pairs with `b` in them: `hnewer` for a
    newer `c` against `b`, `holder` for `b` against an older `c`. -/
theorem core_resize (h : Core p s) {b : Block} (hb : b ∈ s.blocks) (hsc : s.scopes ≠ []) (n : Nat)
    (hfin : b.off + n ≤ b.cap)
    (hfr : ∃ f ∈ s.frames, f.h = b.h ∧ f.size = b.cap ∧ clampA p.P b.cap (b.off + n) ≤ f.len)
    (hnewer : ∀ c ∈ s.blocks, After p.P c b → After p.P c { b with size := n, depth := curDepth s })
    (holder : ∀ c ∈ s.blocks, After p.P b c → After p.P { b with size := n, depth := curDepth s } c) :
    Core p { s with blocks := keepBlocks s b n } := by
  have hin := h.block_innermost (b := { b with size := n, depth := curDepth s }) hsc rfl
  have hbok := h.bl_ok b hb
  refine { h with
    bl_fr := forall_mem_keepBlocks hfr h.bl_fr
    bl_ok := forall_mem_keepBlocks ⟨hbok.1, hbok.2.1, hfin⟩ h.bl_ok
    bl_ord := ?_
    bl_sc := forall_mem_keepBlocks hin.1 h.bl_sc
    bl_before := forall_mem_keepBlocks hin.2 h.bl_before }
  show (keepBlocks s b n).Pairwise _
  unfold keepBlocks
  rw [List.pairwise_map]
  refine h.bl_ord.imp_of_mem fun {c d} hc hd ⟨haf, hne⟩ => ?_
  by_cases ec : c.id = b.id <;> by_cases ed : d.id = b.id
  · exact absurd (ec.trans ed.symm) hne    -- both are `b`
  · cases block_unique h.bl_ord hc hb ec   -- `c` is `b`
    simp only [beq_self_eq_true, if_true, beq_iff_eq, ed, if_false]
    exact ⟨holder d hd haf, hne⟩
  · cases block_unique h.bl_ord hd hb ed   -- `d` is `b`
    simp only [beq_self_eq_true, if_true, beq_iff_eq, ec, if_false]
    exact ⟨hnewer c hc haf, hne⟩
  · simp only [beq_iff_eq, ec, ed, if_false]   -- neither
    exact ⟨haf, hne⟩

/-- `arena_malloc` from the innermost scope: never fails, keeps the invariant,
    and the new block lies beyond every live block of its frame -/
theorem core_alloc (hp : p.ok) (h : Core p s) (hsc : s.scopes ≠ []) (n id : Nat)
    (hid : ∀ c ∈ s.blocks, c.id ≠ id) :
    ∃ fr b, alloc p s n id = some ({ s with frames := fr, blocks := b :: s.blocks }, b) ∧
      Core p { s with frames := fr, blocks := b :: s.blocks } ∧ b.id = id ∧ b.size = n ∧
      (∀ c ∈ s.blocks, c.h = b.h → c.fin ≤ b.off) := by
  have ⟨_hpos, hhdr8, _hfsz8, hP8, _hle⟩ := hp
  obtain ⟨f, fs, hfr⟩ := List.exists_cons_of_ne_nil h.fr_ne
  have hfm : f ∈ s.frames := hfr ▸ List.mem_cons_self
  obtain ⟨hf8, hl8, hhdr, -⟩ := h.fr_ok f hfm
  rcases mallocCore_spec hp (f := f) (fs := fs) n with ⟨hfit, hm⟩ | ⟨sz, hsz8, hszge, hm⟩
  · -- the current frame
    have hge := clampA_ge (P := p.P) hfit
    have hbeyond : ∀ c ∈ s.blocks, c.h = f.h → clampA p.P c.cap c.fin ≤ f.len :=
      fun c hc hh => (h.block_frame hc hfm hh.symm).2
    refine ⟨_, { id := id, h := f.h, off := f.len, size := n, depth := curDepth s, cap := f.size },
      by simp only [alloc, hfr, hm]; rfl, ?_, rfl, rfl, fun c hc hh => Nat.le_trans (h.fin_le hc) (hbeyond c hc hh)⟩
    exact core_push_block (core_bump h hfr (clampA_dvd hP8 hf8) (Nat.le_trans (Nat.le_add_right _ _) hge) clampA_le_cap)
      ⟨_, List.mem_cons_self, rfl, rfl, Nat.le_refl _⟩ ⟨hl8, hhdr, hfit⟩ hbeyond hid rfl hsc
  · -- a new frame: header, poison, block
    have hnone : ∀ c ∈ s.blocks, c.h ≠ f.h + 1 := by
      intro c hc hh
      obtain ⟨g, hg, h1, _, _⟩ := h.bl_fr c hc
      have := frames_le_head (hfr ▸ h.fr_sorted) (hfr ▸ hg) (Nat.le_refl _)
      omega
    have hge := clampA_ge (P := p.P) hszge
    refine ⟨_, { id := id, h := f.h + 1, off := p.hdr + p.P, size := n, depth := curDepth s, cap := sz },
      by simp only [alloc, hfr, hm]; rfl, ?_, rfl, rfl, fun c hc hh => absurd hh (hnone c hc)⟩
    exact core_push_block (core_new_frame h hfr hsz8 (clampA_dvd hP8 hsz8)
        (Nat.le_trans (Nat.le_add_right_of_le (Nat.le_add_right _ _)) hge) clampA_le_cap)
      ⟨_, List.mem_cons_self, rfl, rfl, Nat.le_refl _⟩ ⟨Nat.dvd_add hhdr8 hP8, Nat.le_add_right _ _, hszge⟩
      (fun c hc hh => absurd hh (hnone c hc)) hid rfl hsc

theorem core_shrink (h : Core p s) {b : Block} (hb : b ∈ s.blocks) {n : Nat} (hn : n ≤ b.size)
    (hsc : s.scopes ≠ []) : Core p { s with blocks := keepBlocks s b n } := by
  have hmono : clampA p.P b.cap (b.off + n) ≤ clampA p.P b.cap b.fin := clampA_mono (Nat.add_le_add_left hn _)
  refine core_resize h hb hsc n (Nat.le_trans (Nat.add_le_add_left hn _) (h.bl_ok b hb).2.2) ?_ ?_ ?_
  · obtain ⟨g, hg, h1, h2, h3⟩ := h.bl_fr b hb
    exact ⟨g, hg, h1, h2, Nat.le_trans hmono h3⟩
  · intro c _ haf hh
    obtain ⟨h1, h2⟩ := haf hh
    exact ⟨h1, h2.imp_left (Nat.le_trans hmono)⟩
  · intro c _ haf hh
    obtain ⟨h1, h2⟩ := haf hh
    exact ⟨h1, h2.elim Or.inl fun h0 => Or.inr ⟨Nat.le_zero.mp (h0.1 ▸ hn), h0.2⟩⟩

/-- `hbump`: `b` is the last allocated block of `f`, so a newer `c` of that frame lies between the end
    of `b` and the bump pointer.  Either the frame is full and `c` starts at its end, which no bump
    pointer exceeds; or `c` with its poison has room there, which makes `c` empty and `P = 0`, the
    exception of `After`.  Both hold at any size `n` of `b`. -/
theorem after_realloc_last {P : Nat} {c b : Block} {f : Frame} (haf : After P c b) {old : Nat} (hold : old ≤ b.size)
    (hbump : clampA P f.size (b.off + old) = f.len) (hbcap : f.size = b.cap)
    (hc : c.h = b.h → f.size = c.cap ∧ clampA P c.cap c.fin ≤ f.len) (n d : Nat) :
    After P c { b with size := n, depth := d } := by
  intro hch
  obtain ⟨hoff, hbeyond⟩ := haf hch
  obtain ⟨hccap, hctop⟩ := hc hch
  refine ⟨hoff, hbeyond.elim (fun hcb => ?_) Or.inr⟩
  show clampA P b.cap (b.off + n) ≤ c.off ∨ (c.size = 0 ∧ P = 0)
  rw [← hbcap] at hcb ⊢
  have hlen : f.len ≤ c.off := hbump ▸ Nat.le_trans (clampA_mono (Nat.add_le_add_left hold _)) hcb
  rcases clampA_le_cases (Nat.le_trans hctop hlen) with hempty | hfull
  · exact Or.inr (by unfold Block.fin at hempty; omega)
  · exact Or.inl (Nat.le_trans clampA_le_cap (hccap ▸ hfull))

/-- the fast path of `arena_realloc`: the last block of the current frame grows in place -/
theorem core_realloc_last (hp : p.ok) (h : Core p s) {b : Block} (hb : b ∈ s.blocks)
    {f : Frame} {fs : List Frame} (hfr : s.frames = f :: fs) {old n : Nat} (hold : old ≤ b.size) (hn : old ≤ n)
    (hh : b.h = f.h) (hlast : align8 (b.off + old) + p.P = f.len) (hfit : b.off + n ≤ f.size)
    (hsc : s.scopes ≠ []) :
    Core p { s with frames := { f with len := clampA p.P f.size (b.off + n) } :: fs, blocks := keepBlocks s b n } := by
  have ⟨_hpos, _hhdr8, _hfsz8, hP8, _hle⟩ := hp
  have hfm : f ∈ s.frames := hfr ▸ List.mem_cons_self
  obtain ⟨hf8, -, -, hlen⟩ := h.fr_ok f hfm
  have hcap := (h.block_frame hb hfm hh.symm).1
  have hbump : clampA p.P f.size (b.off + old) = f.len := clampA_eq_of_le_cap hlast hlen
  have hlen_le : f.len ≤ clampA p.P f.size (b.off + n) := hbump ▸ clampA_mono (Nat.add_le_add_left hn _)
  refine core_resize (core_bump h hfr (clampA_dvd hP8 hf8) hlen_le clampA_le_cap) hb hsc n
    (hcap ▸ hfit) ⟨_, List.mem_cons_self, hh.symm, hcap, hcap ▸ Nat.le_refl _⟩ ?_ ?_
  · exact fun c hc haf =>
      after_realloc_last haf hold hbump hcap (fun hch => h.block_frame hc hfm (hh.symm.trans hch.symm)) n _
  · intro c hc haf hch
    obtain ⟨h1, h2⟩ := haf hch
    refine ⟨h1, h2.elim Or.inl fun h0 => Or.inl ?_⟩
    -- `b` was empty and without poison: it left the bump pointer at its own offset
    obtain rfl : old = 0 := Nat.le_zero.mp (h0.1 ▸ hold)
    rw [Nat.add_zero, align8_of_dvd (h.bl_ok b hb).1, h0.2, Nat.add_zero] at hlast
    exact hlast ▸ (h.block_frame hc hfm (hh.symm.trans hch)).2

theorem core_init (hp : p.ok) : Core p (init p) := by
  obtain ⟨_hpos, _hhdr8, hfsz8, hP8, hle⟩ := hp
  have hfit : (0 : Nat) + p.hdr ≤ p.fsz := (Nat.zero_add _).symm ▸ hle
  simp only [init, push_eq hP8, if_pos hfit]
  exact {
    fr_ne := List.cons_ne_nil _ _
    fr_ok := fun f hf => by
      cases List.mem_singleton.mp hf
      exact ⟨hfsz8, clampA_dvd hP8 hfsz8, Nat.le_trans (Nat.le_add_left _ _) (clampA_ge hfit), clampA_le_cap⟩
    fr_sorted := List.pairwise_singleton _ _
    bl_fr := nofun, bl_ok := nofun, bl_ord := .nil
    sc_ok := nofun, sc_sorted := .nil
    bl_sc := nofun, bl_before := nofun }

theorem core_enter (h : Core p s) {f : Frame} {fs : List Frame} (hfr : s.frames = f :: fs) :
    Core p { s with scopes := { depth := curDepth s + 1, h := f.h, len := f.len, cleanups := [] } :: s.scopes } := by
  have hfm : f ∈ s.frames := hfr ▸ List.mem_cons_self
  obtain ⟨-, hl8, hhdr, -⟩ := h.fr_ok f hfm
  have hsorted := hfr ▸ h.fr_sorted
  refine { h with
    sc_ok := List.forall_mem_cons.mpr ⟨⟨hl8, hhdr, f, hfm, rfl, Nat.le_refl _⟩, h.sc_ok⟩
    sc_sorted := List.pairwise_cons.mpr ⟨fun outer ho => ?_, h.sc_sorted⟩
    bl_sc := fun b hb => (h.bl_sc b hb).imp fun sc hm => ⟨List.mem_cons_of_mem _ hm.1, hm.2⟩
    bl_before := fun b hb => List.forall_mem_cons.mpr ⟨fun _ => ?_, h.bl_before b hb⟩ }
  · obtain ⟨_, _, g, hg, h1, h2⟩ := h.sc_ok outer ho
    exact ⟨Nat.lt_succ_of_le (h.curDepth_max outer ho), h1 ▸ frames_le_head hsorted (hfr ▸ hg) h2⟩
  · obtain ⟨g, hg, h1, _, h3⟩ := h.bl_fr b hb
    exact h1 ▸ frames_le_head hsorted (hfr ▸ hg) h3

theorem dropWhile_h_ne_of_mem {l : List Frame} (hs : l.Pairwise (fun a b => b.h < a.h)) {f : Frame} (hf : f ∈ l) :
    ∃ post, l.dropWhile (fun g => g.h != f.h) = f :: post ∧ ∀ g ∈ l, g.h < f.h → g ∈ post := by
  obtain ⟨pre, post, rfl⟩ := List.append_of_mem hf
  have hpre := (List.pairwise_append.mp hs).2.2
  refine ⟨post, ?_, fun g hg hlt => ?_⟩
  · rw [List.dropWhile_append_of_pos fun a ha => by simpa using Nat.ne_of_gt (hpre a ha f List.mem_cons_self),
      List.dropWhile_cons_of_neg (by simp)]
  · rcases List.mem_append.mp hg with hg | hg
    · exact absurd (Nat.lt_trans hlt (hpre g hg f List.mem_cons_self)) (Nat.lt_irrefl _)
    · exact (List.mem_cons.mp hg).resolve_left fun e => Nat.lt_irrefl _ (e ▸ hlt)

theorem core_pop_scope (h : Core p s) {sc : Scope} {rest : List Scope} (hsc : s.scopes = sc :: rest) :
    Core p { s with scopes := rest, blocks := s.blocks.filter (fun b => b.depth != sc.depth) } := by
  have hsub : ∀ sc' ∈ rest, sc' ∈ s.scopes := fun _ hm => hsc ▸ List.mem_cons_of_mem _ hm
  have hf := core_filter h (fun b => b.depth != sc.depth)
  refine { hf with
    sc_ok := fun sc' hm => h.sc_ok sc' (hsub sc' hm)
    sc_sorted := (List.pairwise_cons.mp (hsc ▸ h.sc_sorted)).2
    bl_sc := fun b hb => ?_
    bl_before := fun b hb sc' hm => hf.bl_before b hb sc' (hsub sc' hm) }
  obtain ⟨hb, hne⟩ := List.mem_filter.mp hb
  obtain ⟨sc', hm, he⟩ := h.bl_sc b hb
  rcases List.mem_cons.mp (hsc ▸ hm) with rfl | hm
  · simp [he] at hne
  · exact ⟨sc', hm, he⟩

/-- registering a cleanup changes nothing `Core` looks at -/
theorem core_cleanup (h : Core p s) {sc : Scope} {rest : List Scope} (hsc : s.scopes = sc :: rest)
    (t : Nat) : Core p { s with scopes := { sc with cleanups := t :: sc.cleanups } :: rest } := by
  have hm : sc ∈ s.scopes := hsc ▸ List.mem_cons_self
  have hsub : ∀ x ∈ rest, x ∈ s.scopes := fun _ hx => hsc ▸ List.mem_cons_of_mem _ hx
  refine { h with
    sc_ok := List.forall_mem_cons.mpr ⟨h.sc_ok sc hm, fun x hx => h.sc_ok x (hsub x hx)⟩
    sc_sorted := List.pairwise_cons.mpr (List.pairwise_cons.mp (hsc ▸ h.sc_sorted))
    bl_sc := fun b hb => ?_
    bl_before := fun b hb => List.forall_mem_cons.mpr ⟨h.bl_before b hb sc hm, fun x hx => h.bl_before b hb x (hsub x hx)⟩ }
  obtain ⟨y, hy, he⟩ := h.bl_sc b hb
  rcases List.mem_cons.mp (hsc ▸ hy) with rfl | hy
  · exact ⟨_, List.mem_cons_self, he⟩
  · exact ⟨y, List.mem_cons_of_mem _ hy, he⟩

theorem Core.disjoint (h : Core p s) {b c : Block} (hb : b ∈ s.blocks) (hc : c ∈ s.blocks)
    (hne : b.id ≠ c.id) (hh : b.h = c.h) : b.size = 0 ∨ c.size = 0 ∨ b.fin ≤ c.off ∨ c.fin ≤ b.off := by
  rcases pairwise_or_of_ne h.bl_ord b hb c hc (fun e => hne (e ▸ rfl)) with ⟨haf, _⟩ | ⟨haf, _⟩
  · exact (haf hh).2.elim (fun h1 => Or.inr (Or.inr (Or.inr (Nat.le_trans (h.fin_le hc) h1)))) (fun h1 => Or.inl h1.1)
  · exact (haf hh.symm).2.elim (fun h1 => Or.inr (Or.inr (Or.inl (Nat.le_trans (h.fin_le hb) h1))))
      (fun h1 => Or.inr (Or.inl h1.1))

theorem Inv.of_core {s' : St} (h : Inv p s) (hc : Core p s') (hb : ∀ b ∈ s'.blocks, b.id < s'.next)
    (hn : s.next ≤ s'.next) (hcl : s'.ran ++ pending s' = s.ran ++ pending s) : Inv p s' :=
  ⟨hc, hb, fun t ht => Nat.lt_of_lt_of_le (h.cl_lt t (hcl ▸ ht)) hn, hcl ▸ h.cl_nodup⟩

theorem inv_init (hp : p.ok) : Inv p (init p) :=
  ⟨core_init hp, nofun, nofun, List.nodup_nil⟩

theorem inv_register (h : Inv p s) {sc : Scope} {rest : List Scope} (hsc : s.scopes = sc :: rest) {t : Nat}
    (hfresh : t ∉ s.ran ++ pending s) (hlt : t < s.next) :
    Inv p { s with scopes := { sc with cleanups := t :: sc.cleanups } :: rest } := by
  have hperm : (s.ran ++ t :: pending s).Perm (t :: (s.ran ++ pending s)) := List.perm_middle
  have hpend : pending { s with scopes := { sc with cleanups := t :: sc.cleanups } :: rest } = t :: pending s := by
    simp only [pending, hsc, List.flatMap_cons, List.cons_append]
  refine { h with core := core_cleanup h.core hsc t, cl_lt := fun x hx => ?_, cl_nodup := ?_ }
  · rw [hpend] at hx
    exact (List.mem_cons.mp (hperm.mem_iff.mp hx)).elim (fun e => e ▸ hlt) (h.cl_lt x)
  · rw [hpend]
    exact hperm.nodup_iff.mpr (List.nodup_cons.mpr ⟨hfresh, h.cl_nodup⟩)

/-- `arena_malloc` of a block with the fresh handle `s.next` -/
theorem inv_alloc (hp : p.ok) (h : Inv p s) (hsc : s.scopes ≠ []) (n : Nat) :
    ∃ fr b, alloc p s n s.next = some ({ s with frames := fr, blocks := b :: s.blocks }, b) ∧
      Inv p { s with frames := fr, blocks := b :: s.blocks, next := s.next + 1 } ∧ b.id = s.next ∧ b.size = n ∧
      (∀ c ∈ s.blocks, c.h = b.h → c.fin ≤ b.off) := by
  obtain ⟨fr, b, halloc, hcore, hbid, hbsz, hbeyond⟩ :=
    core_alloc hp h.core hsc n s.next (fun c hc => Nat.ne_of_lt (h.bl_lt c hc))
  refine ⟨fr, b, halloc, h.of_core { hcore with } ?_ (Nat.le_succ _) rfl, hbid, hbsz, hbeyond⟩
  exact List.forall_mem_cons.mpr ⟨hbid ▸ Nat.lt_succ_self _, fun c hc => Nat.lt_succ_of_lt (h.bl_lt c hc)⟩

theorem inv_mem (h : Inv p s) {m : Nat → Nat → UInt8} : Inv p { s with mem := m } :=
  { h with core := { h.core with } }

/-- the blocks `op` is not aimed at keep their bytes and stay live, those of the scope a `leave` ends
    excepted (C19 `contents_stable`, `survives`) -/
def Untouched (s s' : St) (op : Op) : Prop :=
  ∀ b ∈ s.blocks, ¬ targets op b.id →
    (∀ i, i < b.size → s'.mem b.h (b.off + i) = s.mem b.h (b.off + i)) ∧
    (b ∈ s'.blocks ∨ (op = .leave ∧ b.depth = curDepth s))

structure Post (p : Params) (s : St) (op : Op) (r : St × Out) : Prop where
  inv : Inv p r.1
  ok : r.2 ≠ .fail
  others : Untouched s r.1 op
  ptr : ∀ id h off, r.2 = .ptr id h off → ∃ b ∈ r.1.blocks, b.id = id ∧ b.h = h ∧ b.off = off

theorem Post.same (h : Inv p s) {op : Op} {o : Out} (ho : o = .bad ∨ o = .trap) :
    Post p s op (s, o) := by
  refine ⟨h, ?_, fun b hb _ => ⟨fun _ _ => rfl, Or.inl hb⟩, ?_⟩ <;> rcases ho with rfl | rfl <;> simp

theorem Post.of_unit {s' : St} {op : Op} (hinv : Inv p s') (hothers : Untouched s s' op) : Post p s op (s', .unit) :=
  ⟨hinv, Out.noConfusion, hothers, fun _ _ _ e => Out.noConfusion e⟩

theorem Post.of_ptr {s' : St} {op : Op} {b : Block} (hinv : Inv p s') (hothers : Untouched s s' op) (hb : b ∈ s'.blocks) :
    Post p s op (s', .ptr b.id b.h b.off) :=
  ⟨hinv, Out.noConfusion, hothers, fun _ _ _ e => by cases e; exact ⟨b, hb, rfl, rfl, rfl⟩⟩

theorem scopeCheck_eq_none_iff {k : Nat} : scopeCheck s k = none ↔ s.scopes ≠ [] ∧ k = 0 := by
  rw [← List.length_pos_iff]
  fun_cases scopeCheck s k
  case case1 hlen => exact iff_of_false nofun fun ⟨hpos, hk⟩ => by omega
  case case2 hk => exact iff_of_false nofun fun h => hk h.2
  case case3 hlen hk => exact iff_of_true rfl ⟨by omega, Decidable.not_not.mp hk⟩

theorem scopeCheck_some {k : Nat} {o : Out} (h : scopeCheck s k = some o) : o = .bad ∨ o = .trap := by
  revert h
  fun_cases scopeCheck s k
  case case1 => rintro ⟨⟩; exact .inl rfl    -- there is no scope `k`
  case case2 => rintro ⟨⟩; exact .inr rfl    -- it is not the innermost
  case case3 => nofun

theorem fill_outside {m : Nat → Nat → UInt8} {h off : Nat} {bs : List UInt8} {h' o : Nat}
    (hout : h' ≠ h ∨ o < off ∨ off + bs.length ≤ o) : fill m h off bs h' o = m h' o := by
  unfold fill
  rw [if_neg]
  omega

theorem copy_outside {m : Nat → Nat → UInt8} {h off h0 off0 n : Nat} {h' o : Nat}
    (hout : h' ≠ h ∨ o < off ∨ off + n ≤ o) : copy m h off h0 off0 n h' o = m h' o := by
  unfold copy
  rw [if_neg]
  omega

theorem outside_of_beyond {c b : Block} {n i : Nat} (hi : i < c.size) (h : c.h = b.h → c.fin ≤ b.off) :
    c.h ≠ b.h ∨ c.off + i < b.off ∨ b.off + n ≤ c.off + i := by
  by_cases e : c.h = b.h
  · exact Or.inr (Or.inl (Nat.lt_of_lt_of_le (Nat.add_lt_add_left hi _) (h e)))
  · exact Or.inl e

/-- malloc / calloc / strdup share this shape; `M` is what they write -/
def allocStep (p : Params) (s : St) (k n : Nat) (M : (Nat → Nat → UInt8) → Block → Nat → Nat → UInt8) : St × Out :=
  match scopeCheck s k with
  | some o => (s, o)
  | none =>
    match alloc p s n s.next with
    | none => (s, .fail)
    | some (s', b) => ({ s' with next := s.next + 1, mem := M s'.mem b }, .ptr b.id b.h b.off)

theorem step_malloc (k n : Nat) : step p s (.malloc k n) = allocStep p s k n (fun m _ => m) := rfl
theorem step_calloc (k n : Nat) :
    step p s (.calloc k n) = allocStep p s k n (fun m b => fill m b.h b.off (List.replicate n 0)) := rfl
theorem step_str (k : Nat) (bytes : List UInt8) :
    step p s (.str k bytes) = allocStep p s k (bytes.length + 1) (fun m b => fill m b.h b.off (bytes ++ [0])) := rfl

/-- `op` is arbitrary: no old block is touched -/
theorem allocStep_spec (hp : p.ok) (h : Inv p s) {k n : Nat}
    {M : (Nat → Nat → UInt8) → Block → Nat → Nat → UInt8}
    (hM : ∀ {m} {b : Block} {h' o}, (h' ≠ b.h ∨ o < b.off ∨ b.off + n ≤ o) → M m b h' o = m h' o)
    {op : Op} : Post p s op (allocStep p s k n M) := by
  unfold allocStep
  match hck : scopeCheck s k with
  | some o => exact Post.same h (scopeCheck_some hck)
  | none =>
    obtain ⟨fr, b, halloc, hinv, -, -, hbeyond⟩ := inv_alloc hp h (scopeCheck_eq_none_iff.mp hck).1 n
    simp only [halloc]
    exact Post.of_ptr (inv_mem hinv)
      (fun c hc _ => ⟨fun i hi => hM (outside_of_beyond hi (hbeyond c hc)), Or.inl (List.mem_cons_of_mem _ hc)⟩)
      List.mem_cons_self

theorem findBlock_some {bs : List Block} {id : Nat} {b : Block} (h : findBlock bs id = some b) : b ∈ bs ∧ b.id = id :=
  find?_key_some h

theorem post_enter (h : Inv p s) : Post p s .enter (step p s .enter) := by
  obtain ⟨f, fs, hfr⟩ := List.exists_cons_of_ne_nil h.core.fr_ne
  have hhead : s.frames.head? = some f := hfr ▸ rfl
  simp only [step, hhead]
  exact Post.of_unit { h with core := core_enter h.core hfr } fun b hb _ => ⟨fun _ _ => rfl, Or.inl hb⟩

/-- `arena_scope_leave` in a reachable state: the mark is never above the bump pointer (the `: 0` arm is dead) -/
theorem step_leave_spec (h : Core p s) {sc : Scope} {rest : List Scope} (hsc : s.scopes = sc :: rest) :
    Core p (step p s .leave).1 ∧
    ∃ f post, s.frames.dropWhile (fun g => g.h != sc.h) = f :: post ∧ sc.len ≤ f.len ∧
      step p s .leave = ({ s with frames := { f with len := sc.len } :: post, scopes := rest,
                                  blocks := s.blocks.filter (fun b => b.depth != sc.depth),
                                  ran := s.ran ++ sc.cleanups }, .unit) := by
  have hscm : sc ∈ s.scopes := hsc ▸ List.mem_cons_self
  obtain ⟨hsc8, hschdr, f, hfm, hfh, hflen⟩ := h.sc_ok sc hscm
  obtain ⟨post, hdrop, hpost⟩ := dropWhile_h_ne_of_mem h.fr_sorted hfm
  rw [hfh] at hdrop
  have hsub : (f :: post).Sublist s.frames := hdrop ▸ List.dropWhile_sublist _
  obtain ⟨hf8, -, -, hlen⟩ := h.fr_ok f hfm
  have houter := List.pairwise_cons.mp (hsc ▸ h.sc_sorted)
  refine ⟨?_, f, post, hdrop, hflen, ?_⟩ <;> simp only [step, hsc, hdrop, if_pos hflen]
  have hpop := core_pop_scope h hsc
  refine { core_frames hpop (fr' := { f with len := sc.len } :: post)
    (keep := fun hh l => hh < sc.h ∨ (hh = sc.h ∧ l ≤ sc.len)) (hne := List.cons_ne_nil _ _) (hok := ?hok)
    (hsorted := List.pairwise_cons.mpr (List.pairwise_cons.mp (h.fr_sorted.sublist hsub)))
    (hkeep := ?hkeep) (hbl := ?hbl) (hsc := ?hsc) with }
  case hok =>
    refine List.forall_mem_cons.mpr ⟨⟨hf8, hsc8, hschdr, Nat.le_trans hflen hlen⟩, fun g hg => ?_⟩
    exact h.fr_ok g (hsub.subset (List.mem_cons_of_mem _ hg))
  case hkeep =>
    intro g hg l hl hk
    rcases hk with hlt | ⟨heq, hle⟩
    · exact ⟨g, List.mem_cons_of_mem _ (hpost g hg (hfh ▸ hlt)), rfl, rfl, hl⟩
    · cases frame_unique h.fr_sorted hg hfm (heq.trans hfh.symm)
      exact ⟨_, List.mem_cons_self, rfl, rfl, hle⟩
  case hbl =>
    intro b hb
    obtain ⟨sc', hm, he⟩ := hpop.bl_sc b hb
    exact h.bl_before b (List.mem_filter.mp hb).1 sc hscm (he ▸ (houter.1 sc' hm).1)
  case hsc => exact fun sc' hm => (houter.1 sc' hm).2

theorem post_leave (h : Inv p s) : Post p s .leave (step p s .leave) := by
  match hsc : s.scopes with
  | [] =>
    simp only [step, hsc]
    exact Post.same h (Or.inl rfl)
  | sc :: rest =>
    obtain ⟨hc, f, post, _, _, hstep⟩ := step_leave_spec h.core hsc
    rw [hstep] at hc ⊢
    refine Post.of_unit (h.of_core hc (fun b hb => h.bl_lt b (List.mem_filter.mp hb).1) (Nat.le_refl _) ?_) fun b hb _ => ?_
    · simp only [pending, hsc, List.flatMap_cons, List.append_assoc]
    · refine ⟨fun _ _ => rfl, ?_⟩
      by_cases e : b.depth = sc.depth
      · exact Or.inr ⟨rfl, by simp only [curDepth, hsc]; exact e⟩
      · exact Or.inl (List.mem_filter.mpr ⟨hb, by simp [e]⟩)

theorem post_cleanup (hp : p.ok) (h : Inv p s) (k : Nat) :
    Post p s (.cleanup k) (step p s (.cleanup k)) := by
  simp only [step]
  match hck : scopeCheck s k with
  | some o => exact Post.same h (scopeCheck_some hck)
  | none =>
    have hsc := (scopeCheck_eq_none_iff.mp hck).1
    obtain ⟨fr, b, halloc, hinv, -⟩ := inv_alloc hp h hsc p.csz
    obtain ⟨sc, rest, hsq⟩ := List.exists_cons_of_ne_nil hsc
    simp only [halloc, hsq]
    exact Post.of_ptr (inv_register hinv hsq (fun hm => Nat.lt_irrefl _ (h.cl_lt _ hm)) (Nat.lt_succ_self _))
      (fun c hc _ => ⟨fun _ _ => rfl, Or.inl (List.mem_cons_of_mem _ hc)⟩) List.mem_cons_self

theorem post_write (h : Inv p s) (id i : Nat) (v : UInt8) :
    Post p s (.write id i v) (step p s (.write id i v)) := by
  simp only [step]
  match hfb : findBlock s.blocks id with
  | none => exact Post.same h (Or.inl rfl)
  | some b =>
    obtain ⟨hb, rfl⟩ := findBlock_some hfb
    by_cases hi : i < b.size
    · simp only [if_pos hi]
      refine Post.of_unit (inv_mem h) fun c hc hnt => ?_
      refine ⟨fun j hj => fill_outside ?_, Or.inl hc⟩
      have hdis := h.core.disjoint hc hb (fun e => hnt e.symm)
      simp only [Block.fin, List.length_singleton] at hdis ⊢
      omega
    · simp only [if_neg hi]
      exact Post.same h (Or.inl rfl)

/-- what a successful `arena_realloc` of the block `b` guarantees -/
structure Realloc (p : Params) (s : St) (k : Nat) (b : Block) (old n : Nat) (r : St × Out) : Prop where
  inv : Inv p r.1
  others : Untouched s r.1 (.realloc k b.id old n)
  block : ∃ nb ∈ r.1.blocks, nb.id = b.id ∧ nb.size = n ∧ r.2 = .ptr b.id nb.h nb.off ∧
    ∀ i, i < min old n → r.1.mem nb.h (nb.off + i) = s.mem b.h (b.off + i)

theorem Realloc.toPost {b : Block} {k old n : Nat} {r : St × Out} (h : Realloc p s k b old n r) :
    Post p s (.realloc k b.id old n) r := by
  obtain ⟨s', o⟩ := r
  obtain ⟨hinv, hothers, nb, hnb, hid, -, rfl, -⟩ := h
  have := Post.of_ptr hinv hothers hnb
  rwa [hid] at this

/-- the block stays where it is (shrink, or growth of the most recent block) -/
theorem realloc_keep (h : Inv p s) {b : Block} (hb : b ∈ s.blocks) (k old n : Nat) {fr' : List Frame}
    (hc : Core p { s with frames := fr', blocks := keepBlocks s b n }) :
    Realloc p s k b old n ({ s with frames := fr', blocks := keepBlocks s b n }, .ptr b.id b.h b.off) := by
  refine ⟨{ h with core := hc, bl_lt := forall_mem_keepBlocks (h.bl_lt b hb) h.bl_lt }, ?_,
    { b with size := n, depth := curDepth s }, List.mem_map.mpr ⟨b, hb, by simp⟩, rfl, rfl, rfl, fun _ _ => rfl⟩
  exact fun c hc hne => ⟨fun _ _ => rfl, Or.inl (List.mem_map.mpr ⟨c, hc, by simp [Ne.symm hne]⟩)⟩

/-- the slow path: a fresh block holding the first `old` bytes; nothing else is written -/
theorem realloc_spill (hp : p.ok) (h : Inv p s) {b : Block} (hb : b ∈ s.blocks) (k old n : Nat)
    (hsc : s.scopes ≠ []) : Realloc p s k b old n (spill p s b old n) := by
  obtain ⟨fr, nb, halloc, hcore, hbid, hbsz, hbeyond⟩ :=
    core_alloc hp (core_filter h.core (fun c => c.id != b.id)) hsc n b.id
      (fun c hc => by simpa using (List.mem_filter.mp hc).2)
  unfold spill
  simp only [halloc]
  refine ⟨{ h with core := { hcore with }, bl_lt := ?_ }, ?_,
    nb, List.mem_cons_self, hbid, hbsz, hbid ▸ rfl, fun i hi => ?_⟩
  · exact List.forall_mem_cons.mpr ⟨hbid ▸ h.bl_lt b hb, fun c hc => h.bl_lt c (List.mem_filter.mp hc).1⟩
  · intro c hc hne
    have hcm : c ∈ s.blocks.filter (fun c => c.id != b.id) := List.mem_filter.mpr ⟨hc, by simp [Ne.symm hne]⟩
    exact ⟨fun i hi => copy_outside (outside_of_beyond hi (hbeyond c hcm)), Or.inl (List.mem_cons_of_mem _ hcm)⟩
  · show copy s.mem nb.h nb.off b.h b.off old nb.h (nb.off + i) = s.mem b.h (b.off + i)
    unfold copy
    rw [if_pos ⟨rfl, Nat.le_add_right _ _, Nat.add_lt_add_left (Nat.lt_of_lt_of_le hi (Nat.min_le_left _ _)) _⟩,
      Nat.add_sub_cancel_left]

theorem realloc_ok (hp : p.ok) (h : Inv p s) {k id old : Nat} (n : Nat) {b : Block}
    (hfb : findBlock s.blocks id = some b) (hold : old ≤ b.size) (hck : scopeCheck s k = none) :
    Realloc p s k b old n (step p s (.realloc k id old n)) := by
  obtain ⟨hb, -⟩ := findBlock_some hfb
  have hsc := (scopeCheck_eq_none_iff.mp hck).1
  obtain ⟨f, fs, hfr⟩ := List.exists_cons_of_ne_nil h.core.fr_ne
  have hhead : s.frames.head? = some f := hfr ▸ rfl
  have htail : s.frames.tail = fs := hfr ▸ rfl
  simp only [step, hfb, if_neg (Nat.not_lt.mpr hold), hck, hhead, htail]
  split
  · next hn => exact realloc_keep h hb k old n (core_shrink h.core hb (Nat.le_trans hn hold) hsc)   -- shrink
  · next hn =>
    have hspill := realloc_spill hp h hb k old n hsc
    split
    · next hlast =>
      split
      · next hfit =>
        -- the fast path
        have ⟨_hpos, _hhdr8, _hfsz8, hP8, _hle⟩ := hp
        rw [alignP_eq hP8] at hlast ⊢
        exact realloc_keep h hb k old n
          (core_realloc_last hp h.core hb hfr hold (Nat.le_of_lt (Nat.not_le.mp hn)) hlast.1 hlast.2 hfit hsc)
      · exact hspill   -- it does not fit into the frame
    · exact hspill     -- not the last block of the current frame

theorem post_realloc (hp : p.ok) (h : Inv p s) (k id old n : Nat) :
    Post p s (.realloc k id old n) (step p s (.realloc k id old n)) := by
  match hfb : findBlock s.blocks id with
  | none => simp only [step, hfb]; exact Post.same h (Or.inl rfl)
  | some b =>
    by_cases hold : b.size < old
    · simp only [step, hfb, if_pos hold]; exact Post.same h (Or.inl rfl)
    · match hck : scopeCheck s k with
      | some o => simp only [step, hfb, if_neg hold, hck]; exact Post.same h (scopeCheck_some hck)
      | none =>
        have hr := realloc_ok hp h n hfb (Nat.not_lt.mp hold) hck
        cases (findBlock_some hfb).2
        exact hr.toPost

theorem step_spec (hp : p.ok) (h : Inv p s) (op : Op) : Post p s op (step p s op) := by
  cases op with
  | enter => exact post_enter h
  | leave => exact post_leave h
  | malloc k n =>
    rw [step_malloc]
    exact allocStep_spec hp h fun _ => rfl
  | calloc k n =>
    rw [step_calloc]
    exact allocStep_spec hp h fun hout => fill_outside (by simpa using hout)
  | str k bytes =>
    rw [step_str]
    exact allocStep_spec hp h fun hout => fill_outside (by simpa using hout)
  | cleanup k => exact post_cleanup hp h k
  | realloc k id old n => exact post_realloc hp h k id old n
  | write id i v => exact post_write h id i v
