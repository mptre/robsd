import Robsd.Model.Bytes
import Robsd.Gen.Consts
/-
  libks/map.c: the uthash-derived table.

  What is transcribed, function by function:
    HASH_MAKE_TABLE, HASH_ADD (+ HASH_APPEND_LIST, HASH_ADD_TO_TABLE),
    HASH_EXPAND_BUCKETS (the redistribution loop with its `count`,
    `expand_mult`, `ideal_chain_maxlen`, `nonideal_items`, `ineff_expands`,
    `noexpand` bookkeeping), HASH_FIND, HASH_DELETE (+ HASH_DEL_IN_BKT),
    map_insert, map_find, map_remove, map_iterate, HASH_JEN.

  How the C data structure is represented:
    * an element is `(id, key, hashv)`; `id` stands for its address (the value
      returned by map_insert lives at a fixed offset of it);
    * the application-order doubly linked list (`prev`/`next`, `head`, `tail`)
      is the list `order`, head first;
    * a bucket's `hh_next` chain is the list `chain`, `hh_head` first;
      the back pointers (`prev`, `hh_prev`) are not represented: the harness
      checks on the real memory that they mirror the forward lists, and
      compares every forward list with the model after every operation;
    * `tbl->num_buckets` is `buckets.length`;
    * the table is freed when its only element is deleted and made afresh by
      the next insert; the model keeps the stale value, which nothing reads.
  The model is parametric in the hash function `h`, so every theorem holds
  for every hash; the driver instantiates it with `jen` (HASH_JEN below).
  Not modelled: calloc failure and the 2^31-bucket `KS_u32_mul_overflow` exit.
-/
namespace Robsd
namespace Map

structure Elem where
  id : Nat
  key : Bytes
  hashv : Nat
deriving DecidableEq, Repr

structure Bucket where
  chain : List Elem := []
  count : Nat := 0
  mult : Nat := 0
deriving DecidableEq, Repr

structure Table where
  buckets : List Bucket
  log2 : Nat
  numItems : Nat := 0
  ideal : Nat := 0
  nonideal : Nat := 0
  ineff : Nat := 0
  noexpand : Bool := false
deriving Repr

structure St where
  order : List Elem := []
  table : Table := ⟨[], 0, 0, 0, 0, 0, false⟩
  next : Nat := 0
deriving Repr

/-- HASH_TO_BKT: `hashv & (num_bkts - 1)` -/
def bidx (hv n : Nat) : Nat := hv &&& (n - 1)

theorem bidx_lt (hv : Nat) {n : Nat} (h : 0 < n) : bidx hv n < n :=
  Nat.lt_of_le_of_lt Nat.and_le_right (Nat.sub_lt h Nat.zero_lt_one)

def updAt {α} (l : List α) (i : Nat) (f : α → α) : List α :=
  match l, i with
  | [], _ => []
  | x :: xs, 0 => f x :: xs
  | x :: xs, i + 1 => x :: updAt xs i f

def bucketAt (bs : List Bucket) (j : Nat) : Bucket := bs.getD j {}

/-- HASH_MAKE_TABLE -/
def mkTable : Table :=
  { buckets := List.replicate Gen.mapInitialBuckets {}, log2 := Gen.mapInitialBucketsLog2 }

/-- one iteration of the inner loop of HASH_EXPAND_BUCKETS: the element is
    linked at the head of its new bucket -/
def expandStep (ideal : Nat) (acc : List Bucket × Nat) (e : Elem) : List Bucket × Nat :=
  let j := bidx e.hashv acc.1.length
  let b := bucketAt acc.1 j
  let c := b.count + 1
  let non := if c > ideal then acc.2 + 1 else acc.2
  let m := if c > ideal ∧ c > b.mult * ideal then b.mult + 1 else b.mult
  (updAt acc.1 j (fun _ => { chain := e :: b.chain, count := c, mult := m }), non)

/-- HASH_EXPAND_BUCKETS -/
def expand (t : Table) : Table :=
  let n := t.buckets.length
  let ideal := (t.numItems >>> (t.log2 + 1)) + (if t.numItems &&& (n * 2 - 1) ≠ 0 then 1 else 0)
  let all := t.buckets.flatMap (·.chain)
  let r := all.foldl (expandStep ideal) (List.replicate (n * 2) {}, 0)
  let ineff := if r.2 > t.numItems >>> 1 then t.ineff + 1 else 0
  { buckets := r.1, log2 := t.log2 + 1, numItems := t.numItems, ideal := ideal, nonideal := r.2,
    ineff := ineff, noexpand := t.noexpand || decide (ineff > 1) }

/-- HASH_ADD_TO_TABLE -/
def addToTable (t : Table) (e : Elem) : Table :=
  let j := bidx e.hashv t.buckets.length
  let bs := updAt t.buckets j (fun b => { b with chain := e :: b.chain, count := b.count + 1 })
  let t1 := { t with numItems := t.numItems + 1, buckets := bs }
  let b := bucketAt bs j
  if b.count ≥ (b.mult + 1) * Gen.mapBucketThresh ∧ t.noexpand = false then expand t1 else t1

/-- map_insert: returns the new state and the element (its value address) -/
def insert (h : Bytes → Nat) (s : St) (k : Bytes) : St × Elem :=
  let e : Elem := ⟨s.next, k, h k⟩
  let t0 := if s.order = [] then mkTable else s.table
  ({ order := s.order ++ [e], table := addToTable t0 e, next := s.next + 1 }, e)

/-- HASH_FIND -/
def find (h : Bytes → Nat) (s : St) (k : Bytes) : Option Elem :=
  if s.order = [] then none
  else
    let hv := h k
    (bucketAt s.table.buckets (bidx hv s.table.buckets.length)).chain.find?
      (fun e => e.hashv == hv && e.key == k)

/-- HASH_DEL_IN_BKT -/
def delInBkt (t : Table) (e : Elem) : Table :=
  let j := bidx e.hashv t.buckets.length
  { t with buckets := updAt t.buckets j (fun b => { b with chain := b.chain.erase e, count := b.count - 1 }),
           numItems := t.numItems - 1 }

/-- HASH_DELETE of an element of the map.  `prev == NULL && next == NULL`
    is "the element is head and tail". -/
def delete (s : St) (e : Elem) : St :=
  if s.order.head? = some e ∧ s.order.getLast? = some e then { s with order := [] }
  else { s with order := s.order.erase e, table := delInBkt s.table e }

/-- map_remove -/
def remove (h : Bytes → Nat) (s : St) (k : Bytes) : St :=
  match find h s k with
  | none => s
  | some e => delete s e

/-! ### map_iterate -/

structure Iter where
  started : Bool := false      -- it->el != NULL
  nx : Option Elem := none     -- it->nx
deriving DecidableEq, Repr

inductive IterOut where
  | elem (e : Elem)
  | done
  | uaf            -- `it->nx` was removed meanwhile: the C code reads freed memory
deriving DecidableEq, Repr

/-- the `next` pointer of `e` in the application-order list -/
def succ? : List Elem → Elem → Option Elem
  | [], _ => none
  | x :: xs, e => if x = e then xs.head? else succ? xs e

def iterate (s : St) (it : Iter) : IterOut × Iter :=
  if it.started = false ∧ it.nx = none then
    match s.order with
    | [] => (.done, it)
    | e :: rest => (.elem e, ⟨true, rest.head?⟩)
  else
    match it.nx with
    | none => (.done, it)
    | some e => if e ∈ s.order then (.elem e, { it with nx := succ? s.order e }) else (.uaf, it)

/-- A whole `while (MAP_ITERATE(m, &it))` loop whose body removes the current
    entry when `rm` says so.  `fuel` bounds the number of calls. -/
def drain (h : Bytes → Nat) (rm : Elem → Bool) : Nat → St → Iter → List Elem → (List Elem × St × Bool)
  | 0, s, _, acc => (acc.reverse, s, false)
  | fuel + 1, s, it, acc =>
    match iterate s it with
    | (.elem e, it') =>
      let s' := if rm e then remove h s e.key else s
      drain h rm fuel s' it' (e :: acc)
    | (.done, _) => (acc.reverse, s, true)
    | (.uaf, _) => (acc.reverse, s, false)

/-! ### HASH_JEN (Bob Jenkins' hash as vendored by uthash), 32-bit arithmetic -/

def M32 : Nat := 4294967296
def sub32 (a b : Nat) : Nat := (a + M32 - b % M32) % M32
def shl32 (a k : Nat) : Nat := (a <<< k) % M32

/-- HASH_JEN_MIX -/
def jenMix (a b c : Nat) : Nat × Nat × Nat :=
  let a := sub32 a b; let a := sub32 a c; let a := a ^^^ (c >>> 13)
  let b := sub32 b c; let b := sub32 b a; let b := b ^^^ shl32 a 8
  let c := sub32 c a; let c := sub32 c b; let c := c ^^^ (b >>> 13)
  let a := sub32 a b; let a := sub32 a c; let a := a ^^^ (c >>> 12)
  let b := sub32 b c; let b := sub32 b a; let b := b ^^^ shl32 a 16
  let c := sub32 c a; let c := sub32 c b; let c := c ^^^ (b >>> 5)
  let a := sub32 a b; let a := sub32 a c; let a := a ^^^ (c >>> 3)
  let b := sub32 b c; let b := sub32 b a; let b := b ^^^ shl32 a 10
  let c := sub32 c a; let c := sub32 c b; let c := c ^^^ (b >>> 15)
  (a, b, c)

def byteAt (k : Bytes) (i : Nat) : Nat := (k.getD i 0).toNat
/-- little-endian 32-bit word at byte offset `i` -/
def word (k : Bytes) (i : Nat) : Nat :=
  byteAt k i + (byteAt k (i + 1) <<< 8) + (byteAt k (i + 2) <<< 16) + (byteAt k (i + 3) <<< 24)

def jenLoop : Nat → Bytes → Nat → Nat → Nat → (Bytes × Nat × Nat × Nat)
  | 0, k, i, j, hv => (k, i, j, hv)
  | fuel + 1, k, i, j, hv =>
    if k.length ≥ 12 then
      let i := (i + word k 0) % M32
      let j := (j + word k 4) % M32
      let hv := (hv + word k 8) % M32
      let (i, j, hv) := jenMix i j hv
      jenLoop fuel (k.drop 12) i j hv
    else (k, i, j, hv)

def jen (key : Bytes) : Nat :=
  let (k, i, j, hv) := jenLoop (key.length / 12 + 1) key 0x9e3779b9 0x9e3779b9 0xfeedbeef
  let hv := (hv + key.length) % M32
  let n := k.length
  let b := fun (x sh : Nat) => if x < n then shl32 (byteAt k x) sh else 0
  let hv := (hv + b 10 24 + b 9 16 + b 8 8) % M32
  let j := (j + b 7 24 + b 6 16 + b 5 8 + b 4 0) % M32
  let i := (i + b 3 24 + b 2 16 + b 1 8 + b 0 0) % M32
  (jenMix i j hv).2.2

/-! ### operation sequences -/

inductive Op where
  | insert (k : Bytes)
  | find (k : Bytes)
  | remove (k : Bytes)
  | iterAll (rmKeys : List Bytes)   -- iterate to the end, removing the current entry when its key is listed
deriving Repr

inductive Out where
  | elem (id : Nat)
  | found (id : Option Nat)
  | unit
  | iter (ids : List Nat) (complete : Bool)
deriving DecidableEq, Repr

def step (h : Bytes → Nat) (s : St) : Op → St × Out
  | .insert k => let r := insert h s k; (r.1, .elem r.2.id)
  | .find k => (s, .found ((find h s k).map (·.id)))
  | .remove k => (remove h s k, .unit)
  | .iterAll ks =>
    let r := drain h (fun e => ks.contains e.key) (s.order.length + 1) s {} []
    (r.2.1, .iter (r.1.map (·.id)) r.2.2)

def run (h : Bytes → Nat) : St → List Op → St × List Out
  | s, [] => (s, [])
  | s, op :: ops =>
    let r := step h s op
    let r' := run h r.1 ops
    (r'.1, r.2 :: r'.2)

end Map
end Robsd
