import Robsd.Model.Bytes
import Robsd.Gen.Consts
/-
  Model of interpolate.c: `interpolate` / `interpolate_inner`.

  * the outer recursion is structural in the depth counter the C code itself
    keeps (`++c->depth == LIMIT` fails), not an artificial fuel;
  * the inner scan recurses on the length of the input still to be read.
  Lean accepting these definitions is the termination argument.
-/
namespace Robsd
namespace Interp
open Bytes

inductive Err where
  | expectedLBrace
  | expectedRBrace
  | emptyName
  | unknown (name : Bytes)
  | tooDeep
  deriving DecidableEq, Repr

abbrev Lookup := Bytes → Option Bytes

abbrev DOLLAR : UInt8 := 36
abbrev LBRACE : UInt8 := 123
abbrev RBRACE : UInt8 := 125

/-- One step of the scan in `interpolate_inner`: the text up to the next `$`,
    then `{name}`; or the reason the reference is malformed. -/
inductive Scan where
  | lit (s : Bytes)
  | bad (e : Err)
  | ref (pre name tail : Bytes)
  deriving DecidableEq, Repr

def scan (s : Bytes) : Scan :=
  match splitAt1 DOLLAR s with
  | (pre, none) => .lit pre
  | (_, some []) => .bad .expectedLBrace
  | (pre, some (c :: rest)) =>
    if c ≠ LBRACE then .bad .expectedLBrace
    else
      match splitAt1 RBRACE rest with
      | (_, none) => .bad .expectedRBrace
      | (name, some tail) => if name = [] then .bad .emptyName else .ref pre name tail

theorem scan_eq_lit_iff {s p : Bytes} : scan s = .lit p ↔ p = s ∧ DOLLAR ∉ s := by
  refine ⟨?_, fun ⟨e, h⟩ => by rw [e, scan, splitAt1_of_not_mem h]⟩
  fun_cases scan s with
  | case1 pre h =>  -- no `$`
    rintro ⟨⟩
    exact splitAt1_eq_none_iff.mp h
  | _ => nofun

theorem scan_eq_ref_iff {s pre name tail : Bytes} :
    scan s = .ref pre name tail ↔
      s = pre ++ DOLLAR :: LBRACE :: name ++ RBRACE :: tail ∧ DOLLAR ∉ pre ∧ RBRACE ∉ name ∧ name ≠ [] := by
  constructor
  · fun_cases scan s with
    | case6 pre' c rest h1 hc name' tail' h2 hne =>  -- `pre${name}tail`
      rintro ⟨⟩
      obtain ⟨rfl, hp⟩ := splitAt1_eq_some_iff.mp h1
      obtain ⟨rfl, hnm⟩ := splitAt1_eq_some_iff.mp h2
      rw [Decidable.not_not.mp hc]
      exact ⟨by simp, hp, hnm, hne⟩
    | _ => nofun
  · rintro ⟨rfl, hp, hnm, hne⟩
    rw [scan, List.append_assoc, List.cons_append, List.cons_append, splitAt1_append_of_not_mem _ hp]
    simp only [ne_eq, not_true_eq_false, if_false]
    rw [splitAt1_append_of_not_mem tail hnm]
    simp [hne]

theorem scan_ref_length (s pre name tail : Bytes) (h : scan s = .ref pre name tail) :
    tail.length < s.length := by
  obtain ⟨rfl, -⟩ := scan_eq_ref_iff.mp h
  simp only [List.length_append, List.length_cons]
  omega

theorem scan_of_lit {s : Bytes} (h : DOLLAR ∉ s) : scan s = .lit s :=
  scan_eq_lit_iff.mpr ⟨rfl, h⟩

/-- `interpolate_inner`, parametrised by what `interpolate` does with a
    looked-up value (`rec`).  `ign` is INTERPOLATE_IGNORE_LOOKUP_ERRORS. -/
def inner (lookup : Lookup) (ign : Bool) (rec : Bytes → Except Err Bytes) (s : Bytes) :
    Except Err Bytes :=
  match h : scan s with
  | .lit p => .ok p
  | .bad e => .error e
  | .ref pre name tail =>
    have : tail.length < s.length := scan_ref_length s pre name tail h
    match lookup name with
    | none =>
      if ign then
        match inner lookup ign rec tail with
        | .ok b => .ok (pre ++ DOLLAR :: LBRACE :: name ++ RBRACE :: b)
        | .error e => .error e
      else .error (.unknown name)
    | some v =>
      match rec v with
      | .error e => .error e
      | .ok a =>
        match inner lookup ign rec tail with
        | .ok b => .ok (pre ++ a ++ b)
        | .error e => .error e
termination_by s.length

/-- `inner` without the termination argument: with `h : scan s = …`, `rw [inner_eq, h]` gives the branch taken. -/
theorem inner_eq (lookup : Lookup) (ign : Bool) (rec : Bytes → Except Err Bytes) (s : Bytes) :
    inner lookup ign rec s =
    match scan s with
    | .lit p => .ok p
    | .bad e => .error e
    | .ref pre name tail =>
      match lookup name with
      | none =>
        if ign then
          match inner lookup ign rec tail with
          | .ok b => .ok (pre ++ DOLLAR :: LBRACE :: name ++ RBRACE :: b)
          | .error e => .error e
        else .error (.unknown name)
      | some v =>
        match rec v with
        | .error e => .error e
        | .ok a =>
          match inner lookup ign rec tail with
          | .ok b => .ok (pre ++ a ++ b)
          | .error e => .error e := by
  rw [inner]
  split <;> rename_i h <;> simp only [h]

/-- `interpolate` with `d` levels of nesting still allowed.  The C code fails
    when `++depth == LIMIT`; the top-level call is `interp (LIMIT-1)`. -/
def interp (lookup : Lookup) (ign : Bool) : Nat → Bytes → Except Err Bytes
  | 0 => fun _ => .error .tooDeep
  | d + 1 => inner lookup ign (interp lookup ign d)

theorem interp_of_lit {lookup : Lookup} {ign : Bool} {d : Nat} {s : Bytes} (h : DOLLAR ∉ s) :
    interp lookup ign (d + 1) s = .ok s := by
  rw [interp, inner_eq, scan_of_lit h]

/-- `interpolate_buffer` / `interpolate_str` as the callers use them. -/
def interpStr (lookup : Lookup) (ign : Bool) (s : Bytes) : Except Err Bytes :=
  interp lookup ign (Gen.interpolateDepthLimit - 1) s

theorem interpStr_of_lit {lookup : Lookup} {ign : Bool} {s : Bytes} (h : DOLLAR ∉ s) :
    interpStr lookup ign s = .ok s :=
  interp_of_lit (d := Gen.interpolateDepthLimit - 2) h

/-- `interpolate_file`: every line (cut at NUL) is interpolated and followed by
    a newline; the first failing line fails the whole file and nothing is
    returned. -/
def interpLines (lookup : Lookup) (ign : Bool) : List Bytes → Except Err Bytes
  | [] => .ok []
  | l :: ls =>
    match interpStr lookup ign l with
    | .error e => .error e
    | .ok a =>
      match interpLines lookup ign ls with
      | .error e => .error e
      | .ok b => .ok (a ++ 10 :: b)

def interpFile (lookup : Lookup) (ign : Bool) (content : Bytes) : Except Err Bytes :=
  interpLines lookup ign (lines content)

/-- What the CLI prints (`printf("%s", str)` of the result, nothing on error). -/
def cliStdout (r : Except Err Bytes) : Bytes :=
  match r with
  | .ok b => cstr b
  | .error _ => []

end Interp
end Robsd
