/-
  C integer semantics used by the *generated* `Gen/Arith.lean` (the translation
  of libks/arithmetic.c's `*_OVERFLOW` macro bodies).  Every C operator is an
  explicit function returning `R`: a value, a hardware trap (division by zero,
  `MIN / -1`), or undefined behaviour (signed overflow of an intermediate).
-/
namespace Robsd
namespace CArith

inductive R (α : Type) where
  | ok (v : α)
  | trap
  | ub
  deriving DecidableEq, Repr

namespace R
def bind {α β} : R α → (α → R β) → R β
  | ok v, f => f v
  | trap, _ => trap
  | ub, _ => ub

@[simp] theorem bind_ok {α β} (v : α) (f : α → R β) : (ok v).bind f = f v := rfl
@[simp] theorem bind_trap {α β} (f : α → R β) : (trap : R α).bind f = trap := rfl
@[simp] theorem bind_ub {α β} (f : α → R β) : (ub : R α).bind f = ub := rfl
end R

/-- An integer type: signedness and the magnitude bound `M`
    (signed: `-M .. M-1`; unsigned: `0 .. M-1`). -/
structure CTy where
  signed : Bool
  M : Int
  deriving DecidableEq, Repr

namespace CTy
def min (T : CTy) : Int := if T.signed then -T.M else 0
def max (T : CTy) : Int := T.M - 1
def inRange (T : CTy) (x : Int) : Prop := T.min ≤ x ∧ x ≤ T.max
instance (T : CTy) (x : Int) : Decidable (T.inRange x) := by unfold inRange; exact inferInstance

/-- result of an arithmetic operator whose exact result is `x` -/
def wrapOrUb (T : CTy) (x : Int) : R Int :=
  if T.signed then (if T.min ≤ x ∧ x ≤ T.max then .ok x else .ub)
  else .ok (x % T.M)

def add (T : CTy) (x y : Int) : R Int := T.wrapOrUb (x + y)
def sub (T : CTy) (x y : Int) : R Int := T.wrapOrUb (x - y)
def mul (T : CTy) (x y : Int) : R Int := T.wrapOrUb (x * y)
def div (T : CTy) (x y : Int) : R Int :=
  if y = 0 then .trap
  else if T.signed ∧ x = T.min ∧ y = -1 then .trap
  else .ok (Int.tdiv x y)
end CTy

def i32 : CTy := ⟨true, 2147483648⟩
def i64 : CTy := ⟨true, 9223372036854775808⟩
def u32 : CTy := ⟨false, 4294967296⟩
def u64 : CTy := ⟨false, 18446744073709551616⟩
/-- `size_t` on the only platform the harness runs on (LP64). -/
def usize : CTy := u64

/-- Outcome of a checked operation: overflow reported (`*c` untouched) or the
    value stored through `c`. -/
inductive Out where
  | overflow
  | value (v : Int)
  deriving DecidableEq, Repr

/-- C's `A && B` with short-circuit evaluation. -/
def land (a : R Bool) (b : Unit → R Bool) : R Bool :=
  a.bind fun x => if x then b () else .ok false
/-- C's `A || B` with short-circuit evaluation. -/
def lor (a : R Bool) (b : Unit → R Bool) : R Bool :=
  a.bind fun x => if x then .ok true else b ()

/-- The mathematical specification of a checked operation. -/
def spec (T : CTy) (exact : Int) : R Out :=
  if T.min ≤ exact ∧ exact ≤ T.max then .ok (.value exact) else .ok .overflow

theorem spec_of_inRange {T : CTy} {x : Int} (h : T.inRange x) : spec T x = .ok (.value x) := if_pos h
theorem spec_of_not_inRange {T : CTy} {x : Int} (h : ¬ T.inRange x) : spec T x = .ok .overflow := if_neg h

def showOut : R Out → String
  | .ok .overflow => "overflow"
  | .ok (.value v) => s!"value {v}"
  | .trap => "trap"
  | .ub => "ub"

end CArith
end Robsd
